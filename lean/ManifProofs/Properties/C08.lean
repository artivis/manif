/-
  C08 — elements stay valid under arbitrarily long operation histories.
  Exact-arithmetic part, every ordered field with a lawful sqrt, NO bound on the length:
    * the first-order Newton step `approxSqrtInv` is a cubic contraction of the squared-norm
      deviation: `(1+δ)·s(1+δ)² − 1 = δ³(9δ²−15δ+40)/64`, so `≤ |δ|³` for `|δ| ≤ 1/2`;
    * `compose` multiplies squared norms and renormalises iff the deviation exceeds `eps`;
      hence `|‖·‖²−1| ≤ eps` is an INVARIANT of every history of compose / inverse steps
      (induction over the operation list), and under that invariant the constructor check
      `|‖·‖−1| < eps` never fires: no exception with assertions enabled, deviation bounded
      independently of the history length.
  The invariant needs `eps ≤ 1/10` (`27 eps² ≤ 1` closes the cubic step); `LawfulTransc` asks only `eps < 1`, so this
  stays a hypothesis `he` of every statement (`realEps = 100/2⁵²` satisfies it; no lemma here says so).
  Floating-point: one step followed by a rounding perturbation `e` ends within `eps + |e|` (`drift_step_bound`) — a
  bound for one step, not an invariant; that each operation contributes at most a few ulp is measured by the
  lock-step histories (hist.py), not proved.
-/
import ManifProofs.Properties.C01
import ManifProofs.Lemmas.Except
import Mathlib.Tactic.Positivity

namespace Manif
variable {K : Type} [Field K] [LinearOrder K] [IsStrictOrderedRing K] [Transc K] [LawfulTransc K]

omit [LawfulTransc K] in
theorem approxSqrtInv_residual (δ : K) :
    (1 + δ) * (approxSqrtInv (1 + δ) * approxSqrtInv (1 + δ)) - 1 =
      δ ^ 3 * (9 * δ ^ 2 - 15 * δ + 40) / 64 := by
  simp only [approxSqrtInv, scalar_nat]
  push_cast
  ring

theorem approxSqrtInv_cubic (δ : K) (h : |δ| ≤ 1 / 2) :
    |(1 + δ) * (approxSqrtInv (1 + δ) * approxSqrtInv (1 + δ)) - 1| ≤ |δ| ^ 3 := by
  obtain ⟨h1, h2⟩ := abs_le.mp h
  have hsq : δ ^ 2 ≤ 1 / 4 := by
    rw [← sq_abs]
    exact (pow_le_pow_left₀ (abs_nonneg δ) h 2).trans_eq (by norm_num)
  rw [approxSqrtInv_residual, mul_div_assoc, abs_mul, abs_pow]
  exact mul_le_of_le_one_right (pow_nonneg (abs_nonneg δ) 3)
    (abs_le.mpr ⟨by linarith [sq_nonneg δ], by linarith⟩)

/-- the squared-norm deviation after `compose`'s renormalisation logic, as a function of the
    deviation `d` of the raw product -/
noncomputable def renormDev (d : K) : K :=
  if Transc.eps < |d| then (1 + d) * (approxSqrtInv (1 + d) * approxSqrtInv (1 + d)) - 1 else d

/-- **one step keeps the invariant**: if both operands are within `eps` (and eps ≤ 1/10) the result
    is within `eps` again — whichever branch is taken. -/
theorem renormDev_invariant (a b : K) (he : (Transc.eps : K) ≤ 1 / 10)
    (ha : |a| ≤ Transc.eps) (hb : |b| ≤ Transc.eps) :
    |renormDev (a + b + a * b)| ≤ Transc.eps := by
  have hpos : (0 : K) < Transc.eps := LawfulTransc.eps_pos
  have h1 : (Transc.eps : K) ≤ 1 := he.trans (by norm_num)
  unfold renormDev
  split
  · have hd : |a + b + a * b| ≤ 3 * Transc.eps :=
      calc |a + b + a * b| ≤ |a| + |b| + |a| * |b| := by
            rw [← abs_mul]; exact (abs_add_le _ _).trans (add_le_add (abs_add_le _ _) le_rfl)
        _ ≤ Transc.eps + Transc.eps + Transc.eps * 1 :=
            add_le_add (add_le_add ha hb) (mul_le_mul ha (hb.trans h1) (abs_nonneg b) hpos.le)
        _ = 3 * Transc.eps := by ring
    have hsq : (Transc.eps : K) * Transc.eps ≤ 1 / 10 * (1 / 10) := mul_le_mul he he hpos.le (by norm_num)
    calc _ ≤ |a + b + a * b| ^ 3 := approxSqrtInv_cubic _ (by linarith)
      _ ≤ (3 * Transc.eps) ^ 3 := pow_le_pow_left₀ (abs_nonneg _) hd 3
      _ = Transc.eps * (27 * (Transc.eps * Transc.eps)) := by ring
      _ ≤ Transc.eps * 1 := mul_le_mul_of_nonneg_left (by linarith) hpos.le
      _ = Transc.eps := mul_one _
  · next hle => exact not_lt.mp hle

/-- rounding model, one step: a perturbation `e` of the result moves the bound by `|e|`, never more. -/
theorem drift_step_bound (a b e : K) (he : (Transc.eps : K) ≤ 1 / 10)
    (ha : |a| ≤ Transc.eps) (hb : |b| ≤ Transc.eps) :
    |renormDev (a + b + a * b) + e| ≤ Transc.eps + |e| :=
  (abs_add_le _ _).trans (add_le_add (renormDev_invariant a b he ha hb) le_rfl)

omit [IsStrictOrderedRing K] [LawfulTransc K] in
/-- the renormalisation branch of `compose`, on the squared norm `n` of the raw product -/
theorem renormDev_sub_one (n : K) :
    (if Scalar.gt (Scalar.abs (n - Scalar.nat 1)) Scalar.eps then n * (approxSqrtInv n * approxSqrtInv n)
      else n) - 1 = renormDev (n - 1) := by
  unfold renormDev
  simp only [scalar_gt, scalar_abs, scalar_eps, scalar_nat, Nat.cast_one, decide_eq_true_eq, add_sub_cancel]
  split <;> rfl

namespace SO2

def dev (X : SO2 K) : K := X.re * X.re + X.im * X.im - 1

def Near (X : SO2 K) : Prop := |dev X| ≤ Transc.eps

omit [IsStrictOrderedRing K] [LawfulTransc K] in
theorem dev_composeRaw (X Y : SO2 K) :
    dev (composeRaw X Y) = renormDev (dev X + dev Y + dev X * dev Y) := by
  -- the complex product multiplies squared norms, and `(1 + a) (1 + b) - 1 = a + b + a b`
  rw [show dev X + dev Y + dev X * dev Y = (X.re * Y.re - X.im * Y.im) * (X.re * Y.re - X.im * Y.im) +
      (X.re * Y.im + X.im * Y.re) * (X.re * Y.im + X.im * Y.re) - 1 by unfold dev; ring, ← renormDev_sub_one]
  unfold composeRaw dev
  dsimp only
  split_ifs <;> ring

theorem near_composeRaw (he : (Transc.eps : K) ≤ 1 / 10) {X Y : SO2 K} (hX : Near X) (hY : Near Y) :
    Near (composeRaw X Y) := by
  unfold Near
  rw [dev_composeRaw]
  exact renormDev_invariant _ _ he hX hY

omit [IsStrictOrderedRing K] [LawfulTransc K] in
theorem near_inverseRaw {X : SO2 K} (hX : Near X) : Near (inverseRaw X) := by
  unfold Near dev inverseRaw at *
  simpa using hX

/-- under the invariant the constructor check never fires (assertions enabled). -/
theorem make_ok_of_near (dbg : Bool) {re im : K} (h : Near ⟨re, im⟩) : make dbg re im = .ok ⟨re, im⟩ := by
  simp [make, V2.norm, V2.sqNorm, checkUnit_sqrt_ok dbg h]

theorem compose_near (he : (Transc.eps : K) ≤ 1 / 10) (dbg : Bool) {X Y : SO2 K} (hX : Near X)
    (hY : Near Y) : ∃ Z, compose dbg X Y = .ok Z ∧ Near Z :=
  have hZ := near_composeRaw he hX hY
  ⟨composeRaw X Y, make_ok_of_near dbg hZ, hZ⟩

theorem inverse_near (dbg : Bool) {X : SO2 K} (hX : Near X) : ∃ Z, inverse dbg X = .ok Z ∧ Near Z :=
  have hZ := near_inverseRaw hX
  ⟨inverseRaw X, make_ok_of_near dbg hZ, hZ⟩

/-- a history: each step composes or inverts elements of the pool and stores the result -/
inductive Step where
  | compose (i j dst : ℕ)
  | inverse (i dst : ℕ)

def step (dbg : Bool) (pool : List (SO2 K)) : Step → Except Err (List (SO2 K))
  | .compose i j dst =>
    match pool[i]?, pool[j]? with
    | some X, some Y => (compose dbg X Y).map fun Z => pool.set dst Z
    | _, _ => .ok pool
  | .inverse i dst =>
    match pool[i]? with
    | some X => (inverse dbg X).map fun Z => pool.set dst Z
    | none => .ok pool

def run (dbg : Bool) : List Step → List (SO2 K) → Except Err (List (SO2 K))
  | [], pool => .ok pool
  | s :: rest, pool => (step dbg pool s) >>= run dbg rest

theorem step_near (he : (Transc.eps : K) ≤ 1 / 10) (dbg : Bool) (pool : List (SO2 K))
    (h : ∀ X ∈ pool, Near X) (s : Step) :
    ∃ pool', step dbg pool s = .ok pool' ∧ ∀ X ∈ pool', Near X := by
  cases s with
  | compose i j dst =>
    dsimp only [step]
    split
    · next X Y hi hj =>
      exact Pool.store_ok_of h
        (compose_near he dbg (h X (List.mem_of_getElem? hi)) (h Y (List.mem_of_getElem? hj))) dst
    · exact ⟨pool, rfl, h⟩
  | inverse i dst =>
    dsimp only [step]
    split
    · next X hi => exact Pool.store_ok_of h (inverse_near dbg (h X (List.mem_of_getElem? hi))) dst
    · exact ⟨pool, rfl, h⟩

/-- **every history, of any length**: no exception (assertions enabled or not), and every element
    of the pool stays within `eps` of unit squared norm. -/
theorem run_near (he : (Transc.eps : K) ≤ 1 / 10) (dbg : Bool) (ops : List Step) :
    ∀ pool : List (SO2 K), (∀ X ∈ pool, Near X) →
      ∃ pool', run dbg ops pool = .ok pool' ∧ ∀ X ∈ pool', Near X :=
  Except.run_ok_of (fun _ => rfl) (fun _ _ _ => rfl) (fun pool s h => step_near he dbg pool h s) ops

end SO2

end Manif
