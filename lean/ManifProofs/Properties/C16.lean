/-
  C16 — averages: the parts that are decision logic, for every group (any record of primitives):
  an empty set raises, a single point is returned as is, the loops are bounded by their
  iteration budget by construction (structural recursion on `max_iterations`), and the bi-invariant
  mean of identical points is that point, at the first stopping test (given `X ⊖ X = 0`).
  Convergence within the budget for radius ≤ 0.5 and equivariance are measured (L2), not proved.
-/
import ManifModel
import Mathlib.Tactic.Ring

namespace Manif
variable {K G T J : Type} [Scalar K] (o : GroupOps K G T J)

theorem avgBi_empty (dbg : Bool) (eps : K) (n : Nat) :
    o.averageBiinvariant dbg [] eps n = .error .runtime_error := rfl
theorem avgW_empty (dbg : Bool) (n : Nat) :
    o.averageWeighted dbg [] n = .error .runtime_error := rfl
theorem avgFL_empty (dbg : Bool) (eps : K) (n : Nat) :
    o.averageFrechetLeft dbg [] eps n = .error .runtime_error := rfl
theorem avgFR_empty (dbg : Bool) (eps : K) (n : Nat) :
    o.averageFrechetRight dbg [] eps n = .error .runtime_error := rfl

theorem avgBi_singleton (dbg : Bool) (p : G) (eps : K) (n : Nat) :
    o.averageBiinvariant dbg [p] eps n = .ok p := rfl
theorem avgW_singleton (dbg : Bool) (p : G) (n : Nat) :
    o.averageWeighted dbg [p] n = .ok p := rfl
theorem avgFL_singleton (dbg : Bool) (p : G) (eps : K) (n : Nat) :
    o.averageFrechetLeft dbg [p] eps n = .ok p := rfl
theorem avgFR_singleton (dbg : Bool) (p : G) (eps : K) (n : Nat) :
    o.averageFrechetRight dbg [p] eps n = .ok p := rfl

/-- with an exhausted budget the first point is returned (the loop body never runs). -/
theorem avgBi_zero_budget (dbg : Bool) (p q : G) (rest : List G) (eps : K) :
    o.averageBiinvariant dbg (p :: q :: rest) eps 0 = .ok p := rfl

theorem forIn_const (l : List G) (tz : T) (f : G → T → Except Err (ForInStep T))
    (hf : ∀ x ∈ l, f x tz = .ok (.yield tz)) : forIn l tz f = .ok tz := by
  induction l with
  | nil => rfl
  | cons a l ih =>
    simp only [List.forIn_cons, hf a List.mem_cons_self, bind, Except.bind]
    exact ih (fun x hx => hf x (List.mem_cons_of_mem _ hx))

/-- **identical points**: if `X ⊖ X` is the zero tangent and `‖0‖² < eps`, the bi-invariant mean of
    any number of copies of `X` is `X` (first stopping test). -/
theorem avgBi_identical (dbg : Bool) (X : G) (k : Nat) (eps : K) (n : Nat)
    (hm : o.rminusV dbg X X = .ok o.tzero) (hadd : o.tadd o.tzero o.tzero = o.tzero)
    (hsc : ∀ w, o.tscale o.tzero w = o.tzero) (hlt : Scalar.lt (o.tsqnorm o.tzero) eps = true) :
    o.averageBiinvariant dbg (X :: X :: List.replicate k X) eps (n + 1) = .ok X := by
  unfold GroupOps.averageBiinvariant GroupOps.averageBiinvariant.loop
  simp only
  rw [forIn_const (X :: X :: List.replicate k X) o.tzero _ fun x hx => by
    rw [List.eq_of_mem_replicate (n := k + 2) hx]
    simp only [hm, bind, Except.bind, hadd, pure, Except.pure]]
  simp only [bind, Except.bind, hsc, hlt, if_true, pure, Except.pure]

end Manif
