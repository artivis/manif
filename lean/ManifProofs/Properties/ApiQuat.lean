/-
  Properties/ApiQuat.lean — SO3, SE3, SE_2(3), SGal(3) over ℝ at the level of whole API calls (validation and
  renormalisation branches included, no exception raised), from the `okGroup` of each group (C01, C01b) and the
  generic laws of `Lemmas/OkGroup.lean`:
    C01  `X.inverse().compose(X) = I = X.compose(X.inverse())` (SGal(3): the first equation only);
    C04  `X ⊕ (Y ⊖ X) = Y` — translation-like parts and time exactly, the quaternion up to sign (`-q` is the same
         rotation: `exp ∘ log` returns the representative with `w ≥ 0`), whenever the relative rotation is above log's
         switch-over; `(X ⊕ t) ⊖ X = t` on the closed-form branches with `θ ≤ π`;
         `X.compose(X.between(Y)) = Y` exactly (no log involved, hence no sign);
    C15  `interpolate(A, B, 1) = ±B` (the same transformation), `interpolate(A, B, 0) = A` exactly.
-/
import ManifProofs.Properties.C03c
namespace Manif
variable {K : Type} [Field K] [LinearOrder K] [Transc K]

theorem SO3.inverse_compose (dbg : Bool) {X : SO3 ℝ} (hX : SO3.Valid X) :
    (do let i ← SO3.inverse dbg X; SO3.compose dbg i X) = (.ok ⟨⟨0, 0, 0, 1⟩⟩ : Except Err (SO3 ℝ)) :=
  SO3.okGroup.inverse_compose dbg hX

theorem SO3.compose_inverse (dbg : Bool) {X : SO3 ℝ} (hX : SO3.Valid X) :
    (do let i ← SO3.inverse dbg X; SO3.compose dbg X i) = (.ok ⟨⟨0, 0, 0, 1⟩⟩ : Except Err (SO3 ℝ)) :=
  SO3.okGroup.compose_inverse dbg hX

theorem SE3.inverse_compose (dbg : Bool) {X : SE3 ℝ} (hX : SE3.Valid X) :
    (do let i ← SE3.inverse dbg X; SE3.compose dbg i X) = (.ok ⟨⟨0, 0, 0⟩, ⟨0, 0, 0, 1⟩⟩ : Except Err (SE3 ℝ)) :=
  SE3.okGroup.inverse_compose dbg hX

theorem SE3.compose_inverse (dbg : Bool) {X : SE3 ℝ} (hX : SE3.Valid X) :
    (do let i ← SE3.inverse dbg X; SE3.compose dbg X i) = (.ok ⟨⟨0, 0, 0⟩, ⟨0, 0, 0, 1⟩⟩ : Except Err (SE3 ℝ)) :=
  SE3.okGroup.compose_inverse dbg hX

theorem SE23.inverse_compose (dbg : Bool) {X : SE23 ℝ} (hX : SE23.Valid X) :
    (do let i ← SE23.inverse dbg X; SE23.compose dbg i X) = (.ok ⟨⟨0, 0, 0⟩, ⟨0, 0, 0, 1⟩, ⟨0, 0, 0⟩⟩ : Except Err (SE23 ℝ)) :=
  SE23.okGroup.inverse_compose dbg hX

theorem SE23.compose_inverse (dbg : Bool) {X : SE23 ℝ} (hX : SE23.Valid X) :
    (do let i ← SE23.inverse dbg X; SE23.compose dbg X i) = (.ok ⟨⟨0, 0, 0⟩, ⟨0, 0, 0, 1⟩, ⟨0, 0, 0⟩⟩ : Except Err (SE23 ℝ)) :=
  SE23.okGroup.compose_inverse dbg hX

theorem SGal3.inverse_compose (dbg : Bool) {X : SGal3 ℝ} (hX : SGal3.Valid X) :
    (do let i ← SGal3.inverse dbg X; SGal3.compose dbg i X) = (.ok ⟨⟨0, 0, 0⟩, ⟨0, 0, 0, 1⟩, ⟨0, 0, 0⟩, 0⟩ : Except Err (SGal3 ℝ)) :=
  SGal3.okGroup.inverse_compose dbg hX

namespace SO3
theorem tscale_one (d : SO3T K) : (so3Ops (K := K)).tscale d 1 = d := congrArg SO3T.mk (V3.muls_one d.v)
theorem tscale_zero (d : SO3T K) : (so3Ops (K := K)).tscale d 0 = ⟨⟨0, 0, 0⟩⟩ := congrArg SO3T.mk (V3.muls_zero d.v)

theorem compose_ok (dbg : Bool) {X Y : SO3 ℝ} (hX : Valid X) (hY : Valid Y) :
    compose dbg X Y = .ok ⟨X.q.mul Y.q⟩ :=
  compose_okK dbg hX hY

theorem inverse_ok (dbg : Bool) {X : SO3 ℝ} (hX : Valid X) : inverse dbg X = .ok ⟨X.q.conj⟩ :=
  inverse_okK dbg hX

/-- `q · (±(q̄ y)) = ±y`: the sign `exp ∘ log` may put on the relative rotation ends up on `y` -/
theorem mul_conj_canon (q y : Quat ℝ) (hq : q.sqn = 1) :
    q.mul (canon (q.conj.mul y)) = if (q.conj.mul y).w < 0 then ⟨-y.x, -y.y, -y.z, -y.w⟩ else y := by
  rw [mul_canon, Quat.mul_conj_cancel_left q y hq]

/-- **SO3: `X ⊕ (Y ⊖ X) = ±Y`** (the same rotation), exactly, no exception raised. -/
theorem rplus_rminus (dbg : Bool) {X Y : SO3 ℝ} (hX : Valid X) (hY : Valid Y)
    (h : realEps < (X.q.conj.mul Y.q).x * (X.q.conj.mul Y.q).x +
      ((X.q.conj.mul Y.q).y * (X.q.conj.mul Y.q).y + (X.q.conj.mul Y.q).z * (X.q.conj.mul Y.q).z)) :
    (do let d ← so3Ops.rminus dbg Y X false false
        let r ← so3Ops.rplus dbg X d.val false false
        pure r.val) =
      (.ok ⟨if (X.q.conj.mul Y.q).w < 0 then ⟨-Y.q.x, -Y.q.y, -Y.q.z, -Y.q.w⟩ else Y.q⟩ : Except Err (SO3 ℝ)) := by
  have hZ := okGroup.valid_mul (okGroup.valid_inv hX) hY
  rw [okGroup.rplus_rminus dbg hX hY (exp_log_api dbg _ hZ h) ((canon_sqn _).trans hZ)]
  exact congrArg (fun q => Except.ok (SO3.mk q)) (mul_conj_canon X.q Y.q hX)

/-- **SO3: `(X ⊕ t) ⊖ X = t`** as whole API calls. -/
theorem rminus_rplus (dbg : Bool) {X : SO3 ℝ} (hX : Valid X) (t : SO3T ℝ)
    (h : realEps < t.v.x * t.v.x + (t.v.y * t.v.y + t.v.z * t.v.z))
    (hpi : Real.sqrt (t.v.x * t.v.x + (t.v.y * t.v.y + t.v.z * t.v.z)) ≤ Real.pi)
    (hsw : realEps < Real.sin (1 / 2 * Real.sqrt (t.v.x * t.v.x + (t.v.y * t.v.y + t.v.z * t.v.z))) ^ 2) :
    (do let r ← so3Ops.rplus dbg X t false false
        let d ← so3Ops.rminus dbg r.val X false false
        pure d.val) = (.ok t : Except Err (SO3T ℝ)) :=
  (okGroup.rminus_rplus dbg hX (exp_ok dbg t h) (expRaw_unit t h)).trans (congrArg _ (log_exp t h hpi hsw))

/-- **SO3: `X * X.between(Y) = Y`** exactly, as whole API calls. -/
theorem compose_between (dbg : Bool) {X Y : SO3 ℝ} (hX : Valid X) (hY : Valid Y) :
    (do let b ← so3Ops.between dbg X Y false false
        so3Ops.compose dbg X b.val) = (.ok Y : Except Err (SO3 ℝ)) :=
  okGroup.compose_between dbg hX hY

/-- **SO3 slerp, `t = 1`**: `interpolate(A, B, 1) = ±B`. -/
theorem slerp_one (dbg : Bool) {A B : SO3 ℝ} (hA : Valid A) (hB : Valid B)
    (h : realEps < (A.q.conj.mul B.q).x * (A.q.conj.mul B.q).x +
      ((A.q.conj.mul B.q).y * (A.q.conj.mul B.q).y + (A.q.conj.mul B.q).z * (A.q.conj.mul B.q).z)) :
    so3Ops.interpSlerp dbg A B 1 =
      .ok ⟨if (A.q.conj.mul B.q).w < 0 then ⟨-B.q.x, -B.q.y, -B.q.z, -B.q.w⟩ else B.q⟩ :=
  (interpSlerp_one_eq so3Ops dbg A B 1 tscale_one inUnit_one).trans (rplus_rminus dbg hA hB h)

/-- **SO3 slerp, `t = 0`**: `interpolate(A, B, 0) = A` exactly. -/
theorem slerp_zero (dbg : Bool) {A B : SO3 ℝ} (hA : Valid A) (hB : Valid B) :
    so3Ops.interpSlerp dbg A B 0 = .ok A :=
  okGroup.slerp_zero dbg inUnit_zero hA hB (fun d => (congrArg _ (tscale_zero d)).trans (exp_zero dbg))
end SO3

namespace SE3
theorem tscale_one (d : SE3T K) : (se3Ops (K := K)).tscale d 1 = d := by
  cases d; simp only [se3Ops, V3.muls_one]

theorem tscale_zero (d : SE3T K) : (se3Ops (K := K)).tscale d 0 = ⟨⟨0, 0, 0⟩, ⟨0, 0, 0⟩⟩ := by
  simp only [se3Ops, V3.muls_zero]

theorem compose_ok (dbg : Bool) {X Y : SE3 ℝ} (hX : Valid X) (hY : Valid Y) :
    compose dbg X Y = .ok ⟨(X.rotation.mulVec Y.t).add X.t, X.q.mul Y.q⟩ :=
  compose_okK dbg hX hY

theorem inverse_ok (dbg : Bool) {X : SE3 ℝ} (hX : Valid X) :
    inverse dbg X = .ok ⟨((SO3.mk X.q.conj).act X.t).neg, X.q.conj⟩ :=
  inverse_okK dbg hX

/-- **SE3: `X ⊕ (Y ⊖ X) = Y`** as whole API calls: translation exactly, quaternion up to sign. -/
theorem rplus_rminus (dbg : Bool) {X Y : SE3 ℝ} (hX : Valid X) (hY : Valid Y)
    (h : realEps < (X.q.conj.mul Y.q).x * (X.q.conj.mul Y.q).x +
      ((X.q.conj.mul Y.q).y * (X.q.conj.mul Y.q).y + (X.q.conj.mul Y.q).z * (X.q.conj.mul Y.q).z)) :
    (do let d ← se3Ops.rminus dbg Y X false false
        let r ← se3Ops.rplus dbg X d.val false false
        pure r.val) =
      (.ok ⟨Y.t, if (X.q.conj.mul Y.q).w < 0 then ⟨-Y.q.x, -Y.q.y, -Y.q.z, -Y.q.w⟩ else Y.q⟩ : Except Err (SE3 ℝ)) := by
  have hZ := okGroup.valid_mul (okGroup.valid_inv hX) hY
  rw [okGroup.rplus_rminus dbg hX hY (exp_log_api dbg _ hZ h) ((SO3.canon_sqn _).trans hZ)]
  -- only the quaternion sees the sign: `X · (±(X⁻¹ · Y)) = ±Y`
  show Except.ok (⟨(mul X (mul (inv X) Y)).t, X.q.mul (SO3.canon (X.q.conj.mul Y.q))⟩ : SE3 ℝ) = _
  rw [SE3.mul_inv_cancel_left hX, SO3.mul_conj_canon X.q Y.q hX]

/-- **SE3: `(X ⊕ t) ⊖ X = t`** as whole API calls. -/
theorem rminus_rplus (dbg : Bool) {X : SE3 ℝ} (hX : Valid X) (t : SE3T ℝ)
    (h : realEps < t.ang.x * t.ang.x + (t.ang.y * t.ang.y + t.ang.z * t.ang.z))
    (hpi : Real.sqrt (t.ang.x * t.ang.x + (t.ang.y * t.ang.y + t.ang.z * t.ang.z)) ≤ Real.pi)
    (hsw : realEps < Real.sin (1 / 2 * Real.sqrt (t.ang.x * t.ang.x + (t.ang.y * t.ang.y + t.ang.z * t.ang.z))) ^ 2) :
    (do let r ← se3Ops.rplus dbg X t false false
        let d ← se3Ops.rminus dbg r.val X false false
        pure d.val) = (.ok t : Except Err (SE3T ℝ)) :=
  (okGroup.rminus_rplus dbg hX (exp_ok dbg t h) (SO3.expRaw_unit t.asSO3 h)).trans (congrArg _ (log_exp t h hpi hsw))

/-- **SE3: `X * X.between(Y) = Y`** exactly, as whole API calls. -/
theorem compose_between (dbg : Bool) {X Y : SE3 ℝ} (hX : Valid X) (hY : Valid Y) :
    (do let b ← se3Ops.between dbg X Y false false
        se3Ops.compose dbg X b.val) = (.ok Y : Except Err (SE3 ℝ)) :=
  okGroup.compose_between dbg hX hY

/-- **SE3 slerp, `t = 1`**: `interpolate(A, B, 1)` has exactly the translation of `B` and the quaternion `±B.q`. -/
theorem slerp_one (dbg : Bool) {A B : SE3 ℝ} (hA : Valid A) (hB : Valid B)
    (h : realEps < (A.q.conj.mul B.q).x * (A.q.conj.mul B.q).x +
      ((A.q.conj.mul B.q).y * (A.q.conj.mul B.q).y + (A.q.conj.mul B.q).z * (A.q.conj.mul B.q).z)) :
    se3Ops.interpSlerp dbg A B 1 =
      .ok ⟨B.t, if (A.q.conj.mul B.q).w < 0 then ⟨-B.q.x, -B.q.y, -B.q.z, -B.q.w⟩ else B.q⟩ :=
  (interpSlerp_one_eq se3Ops dbg A B 1 tscale_one inUnit_one).trans (rplus_rminus dbg hA hB h)

/-- **SE3 slerp, `t = 0`**: `interpolate(A, B, 0) = A` exactly. -/
theorem slerp_zero (dbg : Bool) {A B : SE3 ℝ} (hA : Valid A) (hB : Valid B) :
    se3Ops.interpSlerp dbg A B 0 = .ok A :=
  okGroup.slerp_zero dbg inUnit_zero hA hB (fun d => (congrArg _ (tscale_zero d)).trans (exp_zero dbg))
end SE3

namespace SE23
theorem tscale_one (d : SE23T K) : (se23Ops (K := K)).tscale d 1 = d := by
  cases d; simp only [se23Ops, V3.muls_one]

theorem tscale_zero (d : SE23T K) : (se23Ops (K := K)).tscale d 0 = ⟨⟨0, 0, 0⟩, ⟨0, 0, 0⟩, ⟨0, 0, 0⟩⟩ := by
  simp only [se23Ops, V3.muls_zero]

theorem compose_ok (dbg : Bool) {X Y : SE23 ℝ} (hX : Valid X) (hY : Valid Y) :
    compose dbg X Y = .ok ⟨(X.rotation.mulVec Y.t).add X.t, X.q.mul Y.q, (X.rotation.mulVec Y.v).add X.v⟩ :=
  compose_okK dbg hX hY

theorem inverse_ok (dbg : Bool) {X : SE23 ℝ} (hX : Valid X) :
    inverse dbg X = .ok ⟨((SO3.mk X.q.conj).act X.t).neg, X.q.conj, ((SO3.mk X.q.conj).act X.v).neg⟩ :=
  inverse_okK dbg hX

/-- **SE_2(3): `X ⊕ (Y ⊖ X) = Y`** as whole API calls: position and velocity exactly, quaternion up to sign. -/
theorem rplus_rminus (dbg : Bool) {X Y : SE23 ℝ} (hX : Valid X) (hY : Valid Y)
    (h : realEps < (X.q.conj.mul Y.q).x * (X.q.conj.mul Y.q).x +
      ((X.q.conj.mul Y.q).y * (X.q.conj.mul Y.q).y + (X.q.conj.mul Y.q).z * (X.q.conj.mul Y.q).z)) :
    (do let d ← se23Ops.rminus dbg Y X false false
        let r ← se23Ops.rplus dbg X d.val false false
        pure r.val) =
      (.ok ⟨Y.t, if (X.q.conj.mul Y.q).w < 0 then ⟨-Y.q.x, -Y.q.y, -Y.q.z, -Y.q.w⟩ else Y.q, Y.v⟩ : Except Err (SE23 ℝ)) := by
  have hZ := okGroup.valid_mul (okGroup.valid_inv hX) hY
  rw [okGroup.rplus_rminus dbg hX hY (exp_log_generic dbg _ hZ h) ((SO3.canon_sqn _).trans hZ)]
  show Except.ok (⟨(mul X (mul (inv X) Y)).t, X.q.mul (SO3.canon (X.q.conj.mul Y.q)), (mul X (mul (inv X) Y)).v⟩ : SE23 ℝ) = _
  rw [SE23.mul_inv_cancel_left hX, SO3.mul_conj_canon X.q Y.q hX]

/-- **SE_2(3): `(X ⊕ t) ⊖ X = t`** as whole API calls. -/
theorem rminus_rplus (dbg : Bool) {X : SE23 ℝ} (hX : Valid X) (t : SE23T ℝ)
    (h : realEps < t.ang.x * t.ang.x + (t.ang.y * t.ang.y + t.ang.z * t.ang.z))
    (hpi : Real.sqrt (t.ang.x * t.ang.x + (t.ang.y * t.ang.y + t.ang.z * t.ang.z)) ≤ Real.pi)
    (hsw : realEps < Real.sin (1 / 2 * Real.sqrt (t.ang.x * t.ang.x + (t.ang.y * t.ang.y + t.ang.z * t.ang.z))) ^ 2) :
    (do let r ← se23Ops.rplus dbg X t false false
        let d ← se23Ops.rminus dbg r.val X false false
        pure d.val) = (.ok t : Except Err (SE23T ℝ)) := by
  have he := exp_ok dbg t h
  have hl := log_exp dbg t h hpi hsw
  rw [he] at hl
  exact (okGroup.rminus_rplus dbg hX he (SO3.expRaw_unit t.asSO3 h)).trans hl

/-- **SE_2(3): `X * X.between(Y) = Y`** exactly, as whole API calls. -/
theorem compose_between (dbg : Bool) {X Y : SE23 ℝ} (hX : Valid X) (hY : Valid Y) :
    (do let b ← se23Ops.between dbg X Y false false
        se23Ops.compose dbg X b.val) = (.ok Y : Except Err (SE23 ℝ)) :=
  okGroup.compose_between dbg hX hY

theorem slerp_one (dbg : Bool) {A B : SE23 ℝ} (hA : Valid A) (hB : Valid B)
    (h : realEps < (A.q.conj.mul B.q).x * (A.q.conj.mul B.q).x +
      ((A.q.conj.mul B.q).y * (A.q.conj.mul B.q).y + (A.q.conj.mul B.q).z * (A.q.conj.mul B.q).z)) :
    se23Ops.interpSlerp dbg A B 1 =
      .ok ⟨B.t, if (A.q.conj.mul B.q).w < 0 then ⟨-B.q.x, -B.q.y, -B.q.z, -B.q.w⟩ else B.q, B.v⟩ :=
  (interpSlerp_one_eq se23Ops dbg A B 1 tscale_one inUnit_one).trans (rplus_rminus dbg hA hB h)

theorem slerp_zero (dbg : Bool) {A B : SE23 ℝ} (hA : Valid A) (hB : Valid B) :
    se23Ops.interpSlerp dbg A B 0 = .ok A :=
  okGroup.slerp_zero dbg inUnit_zero hA hB (fun d => (congrArg _ (tscale_zero d)).trans (exp_zero dbg))
end SE23

namespace SGal3
theorem tscale_one (d : SGal3T K) : (sgal3Ops (K := K)).tscale d 1 = d := by
  cases d; simp only [sgal3Ops, V3.muls_one, mul_one]

theorem tscale_zero (d : SGal3T K) : (sgal3Ops (K := K)).tscale d 0 = ⟨⟨0, 0, 0⟩, ⟨0, 0, 0⟩, ⟨0, 0, 0⟩, 0⟩ := by
  simp only [sgal3Ops, V3.muls_zero, mul_zero]

theorem compose_ok (dbg : Bool) {X Y : SGal3 ℝ} (hX : Valid X) (hY : Valid Y) :
    compose dbg X Y = .ok ⟨((X.rotation.mulVec Y.p).add (X.v.smul Y.t)).add X.p, X.q.mul Y.q,
      (X.rotation.mulVec Y.v).add X.v, X.t + Y.t⟩ :=
  compose_okK dbg hX hY

theorem inverse_ok (dbg : Bool) {X : SGal3 ℝ} (hX : Valid X) :
    inverse dbg X = .ok ⟨((SO3.mk X.q.conj).act (X.p.sub (X.v.smul X.t))).neg, X.q.conj,
      ((SO3.mk X.q.conj).act X.v).neg, -X.t⟩ :=
  inverse_okK dbg hX

/-- **SGal(3): `X ⊕ (Y ⊖ X) = Y`** as whole API calls. -/
theorem rplus_rminus (dbg : Bool) {X Y : SGal3 ℝ} (hX : Valid X) (hY : Valid Y)
    (h : realEps < (X.q.conj.mul Y.q).x * (X.q.conj.mul Y.q).x +
      ((X.q.conj.mul Y.q).y * (X.q.conj.mul Y.q).y + (X.q.conj.mul Y.q).z * (X.q.conj.mul Y.q).z)) :
    (do let d ← sgal3Ops.rminus dbg Y X false false
        let r ← sgal3Ops.rplus dbg X d.val false false
        pure r.val) =
      (.ok ⟨Y.p, if (X.q.conj.mul Y.q).w < 0 then ⟨-Y.q.x, -Y.q.y, -Y.q.z, -Y.q.w⟩ else Y.q, Y.v, Y.t⟩ : Except Err (SGal3 ℝ)) := by
  have hZ := okGroup.valid_mul (okGroup.valid_inv hX) hY
  rw [okGroup.rplus_rminus dbg hX hY (exp_log_generic dbg _ hZ h) ((SO3.canon_sqn _).trans hZ)]
  show Except.ok (⟨(mul X (mul (inv X) Y)).p, X.q.mul (SO3.canon (X.q.conj.mul Y.q)), (mul X (mul (inv X) Y)).v,
    (mul X (mul (inv X) Y)).t⟩ : SGal3 ℝ) = _
  rw [SGal3.mul_inv_cancel_left hX, SO3.mul_conj_canon X.q Y.q hX]

/-- **SGal(3): `(X ⊕ t) ⊖ X = t`** as whole API calls. -/
theorem rminus_rplus (dbg : Bool) {X : SGal3 ℝ} (hX : Valid X) (t : SGal3T ℝ)
    (h : realEps < t.ang.x * t.ang.x + (t.ang.y * t.ang.y + t.ang.z * t.ang.z))
    (hpi : Real.sqrt (t.ang.x * t.ang.x + (t.ang.y * t.ang.y + t.ang.z * t.ang.z)) ≤ Real.pi)
    (hsw : realEps < Real.sin (1 / 2 * Real.sqrt (t.ang.x * t.ang.x + (t.ang.y * t.ang.y + t.ang.z * t.ang.z))) ^ 2) :
    (do let r ← sgal3Ops.rplus dbg X t false false
        let d ← sgal3Ops.rminus dbg r.val X false false
        pure d.val) = (.ok t : Except Err (SGal3T ℝ)) := by
  have he := exp_ok dbg t h
  have hl := log_exp dbg t h hpi hsw
  rw [he] at hl
  exact (okGroup.rminus_rplus dbg hX he (SO3.expRaw_unit t.asSO3 h)).trans hl

/-- **SGal(3): `X * X.between(Y) = Y`** exactly, as whole API calls. -/
theorem compose_between (dbg : Bool) {X Y : SGal3 ℝ} (hX : Valid X) (hY : Valid Y) :
    (do let b ← sgal3Ops.between dbg X Y false false
        sgal3Ops.compose dbg X b.val) = (.ok Y : Except Err (SGal3 ℝ)) :=
  okGroup.compose_between dbg hX hY

theorem slerp_one (dbg : Bool) {A B : SGal3 ℝ} (hA : Valid A) (hB : Valid B)
    (h : realEps < (A.q.conj.mul B.q).x * (A.q.conj.mul B.q).x +
      ((A.q.conj.mul B.q).y * (A.q.conj.mul B.q).y + (A.q.conj.mul B.q).z * (A.q.conj.mul B.q).z)) :
    sgal3Ops.interpSlerp dbg A B 1 =
      .ok ⟨B.p, if (A.q.conj.mul B.q).w < 0 then ⟨-B.q.x, -B.q.y, -B.q.z, -B.q.w⟩ else B.q, B.v, B.t⟩ :=
  (interpSlerp_one_eq sgal3Ops dbg A B 1 tscale_one inUnit_one).trans (rplus_rminus dbg hA hB h)

theorem slerp_zero (dbg : Bool) {A B : SGal3 ℝ} (hA : Valid A) (hB : Valid B) :
    sgal3Ops.interpSlerp dbg A B 0 = .ok A :=
  okGroup.slerp_zero dbg inUnit_zero hA hB (fun d => (congrArg _ (tscale_zero d)).trans (exp_zero dbg))
end SGal3
end Manif
