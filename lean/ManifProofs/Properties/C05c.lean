/-
C05 (continued): SE3, SE_2(3), SGal(3) — the translation, velocity and position parts of compose, inverse and act
(SE_2(3): no `act`; SGal(3): compose in both arguments for the position, in the first for the velocity, `act`, and the
velocity part of inverse).
Every statement is about the kernels `Quat.mul`, `Quat.toRot`, `M3.mulVec`, `V3.add`, `V3.smul` arranged as the
model's `composeRaw` / `inverse` / `act` of the group arrange them, run on the perturbed operand
`X · Exp(εd)`, `Exp(εd) = (ε dl, e(da))`; the right-hand side is the unperturbed result perturbed by `J d` with the
block of `J` written out (the formulas of `adj (inverse Y)`, identity, `actJm`, `actJv`).  The model's functions
of those names are not mentioned; for SE_2(3) and SGal(3) `adj_rows` / `adj_inverse_rows` tie the written-out
rows to the model's `adj` by `rfl`.  The quaternion parts are the SO3 statements of `C05.lean`.

Each proof splits both sides into value part and ε-part (`eps_split`, `toRot_mul_pertQ`); what is left is an
identity in `V3 K` about the rotation `q.toRot`, which is never unfolded: only `R R̄ = 1` and
`R (u × v) = R u × R v` are used.
-/
import ManifProofs.Properties.C05

namespace Manif
variable {K : Type} [Field K] [LinearOrder K] [IsStrictOrderedRing K] [Transc K] [LawfulTransc K]
namespace SE3

omit [IsStrictOrderedRing K] [LawfulTransc K] in
/-- rotating an infinitesimal vector by a product of real quaternions -/
theorem rot_mul_eps (p q : Quat K) (hp : p.sqn = 1) (hq : q.sqn = 1) (u : V3 K) :
    ((SO3.liftQ p).mul (SO3.liftQ q)).toRot.mulVec (epsV u) =
      (SO3.liftQ p).toRot.mulVec (epsV (q.toRot.mulVec u)) := by
  simp only [eps_split, SO3.liftQ_mul, Quat.toRot_mul p q hp hq]

omit [IsStrictOrderedRing K] [LawfulTransc K] in
/-- `R_Y · (R_Yᵀ dl + [−R_Yᵀ t]× R_Yᵀ da) = dl + da × t` -/
theorem adj_inv_lin (q : Quat K) (hq : q.sqn = 1) (t dl da : V3 K) :
    q.toRot.mulVec ((q.conj.toRot.mulVec dl).add
        (((M3.skew ((q.conj.toRot.mulVec t).neg)).mul q.conj.toRot).mulVec da)) =
      dl.add ((M3.skew da).mulVec t) := by
  rw [M3.mulVec_add, Quat.toRot_mulVec_conj q hq, M3.mul_mulVec, M3.skew_neg, M3.neg_mulVec, M3.mulVec_neg,
    ← Quat.toRot_cross _ (Quat.conj_unit q hq), Quat.toRot_mulVec_conj q hq, ← M3.skew_mulVec_anticomm]

omit [LawfulTransc K] in
/-- **SE3 compose, first argument, translation part**: the translation of `(X ⊞ εd)·Y` is that of
    `(X·Y) ⊞ ε(Ad(Y⁻¹) d)`; the linear part of `Ad(Y⁻¹) d` is `R_Yᵀ dl + [t_{Y⁻¹}]× R_Yᵀ da`, the formula
    of the first block row of `adj (inverseRaw Y)`, written out. -/
theorem compose_Ja_trans (qx qy : Quat K) (tx ty dl da : V3 K) (hx : qx.sqn = 1) (hy : qy.sqn = 1) :
    ((((SO3.liftQ qx).mul (SO3.pertQ da)).toRot.mulVec (liftV ty)).add
        (((SO3.liftQ qx).toRot.mulVec (epsV dl)).add (liftV tx))) =
      ((((SO3.liftQ qx).mul (SO3.liftQ qy)).toRot.mulVec
          (epsV ((qy.conj.toRot.mulVec dl).add
            (((M3.skew ((qy.conj.toRot.mulVec ty).neg)).mul qy.conj.toRot).mulVec da)))).add
        (((SO3.liftQ qx).toRot.mulVec (liftV ty)).add (liftV tx))) := by
  rw [rot_mul_eps qx qy hx hy, adj_inv_lin qy hy]
  simp only [eps_split, SO3.toRot_mul_pertQ qx hx, M3.mulVec_add]
  rw [V3.add_comm (qx.toRot.mulVec dl)]

omit [IsStrictOrderedRing K] [LawfulTransc K] in
/-- **SE3 compose, second argument, translation part** (`J_mc_mb = I`): the translation of `X·(Y ⊞ εd)` is
    that of `(X·Y) ⊞ εd`. -/
theorem compose_Jb_trans (qx qy : Quat K) (tx ty dl : V3 K) (hx : qx.sqn = 1) (hy : qy.sqn = 1) :
    ((SO3.liftQ qx).toRot.mulVec (((SO3.liftQ qy).toRot.mulVec (epsV dl)).add (liftV ty))).add (liftV tx) =
      (((SO3.liftQ qx).mul (SO3.liftQ qy)).toRot.mulVec (epsV dl)).add
        (((SO3.liftQ qx).toRot.mulVec (liftV ty)).add (liftV tx)) := by
  rw [rot_mul_eps qx qy hx hy]
  simp only [eps_split]

/-- **SE3 act, w.r.t. the element** (`J_vout_m = [R | −R[p]×]`, the formula of `actJm`, written out):
    `(X ⊞ εd)·p = X·p + ε (R dl + (−R)[p]× da)`. -/
theorem act_Jm (q : Quat K) (t p dl da : V3 K) (hq : q.sqn = 1) :
    ((((SO3.liftQ q).toRot.mulVec (epsV dl)).add (liftV t)).add
        (((SO3.liftQ q).mul (SO3.pertQ da)).toRot.mulVec (liftV p))) =
      ((liftV (t.add (q.toRot.mulVec p))).add
        (epsV ((q.toRot.mulVec dl).add ((q.toRot.neg.mul (M3.skew p)).mulVec da)))) := by
  simp only [eps_split, SO3.toRot_mul_pertQ q hq]
  -- `R (da × p) = (−R) (p × da)`
  rw [M3.neg_mulVec, ← M3.mulVec_neg, ← M3.skew_mulVec_anticomm]

/-- **SE3 act, w.r.t. the point** (`J_vout_v = R`). -/
theorem act_Jv (q : Quat K) (t p w : V3 K) :
    ((liftV t).add ((SO3.liftQ q).toRot.mulVec ((liftV p).add (epsV w)))) =
      ((liftV (t.add (q.toRot.mulVec p))).add (epsV (q.toRot.mulVec w))) := by
  simp only [eps_split]

/-- **SE3 inverse, translation part** (`J_minv_m = −Ad_X`): the translation of `(X ⊞ εd)⁻¹` is that of
    `X⁻¹ ⊞ ε(−Ad_X d)`, with the first block row `[R | [t]× R]` of the formula of `adj X`, written out. -/
theorem inverse_J_trans (q : Quat K) (t dl da : V3 K) (hq : q.sqn = 1) :
    ((((SO3.liftQ q).mul (SO3.pertQ da)).conj.toRot.mulVec
        (((SO3.liftQ q).toRot.mulVec (epsV dl)).add (liftV t))).neg) =
      (liftV ((q.conj.toRot.mulVec t).neg)).add
        ((SO3.liftQ q.conj).toRot.mulVec (epsV (((q.toRot.mulVec dl).add (((M3.skew t).mul q.toRot).mulVec da)).neg))) := by
  -- the rotation part is `SO3.inverse_J`: `(q e(d))⁻¹ = q̄ e(−R d)`
  rw [SO3.inverse_J q hq, SO3.liftQ_conj]
  simp only [eps_split, SO3.toRot_mul_pertQ _ (Quat.conj_unit q hq)]
  -- `R̄ R dl + R̄ ((−R da) × t) = R̄ (R dl + t × R da)`
  rw [M3.neg_mulVec, M3.skew_neg, M3.neg_mulVec, ← M3.skew_mulVec_anticomm, ← M3.mulVec_add, M3.mulVec_neg]
end SE3

/-! position and velocity both transform as `R·x + x₀`: each statement is two instances of the SE3 lemma -/
namespace SE23

/-- the rows of `adj (Y⁻¹)` the statements below use (`Y⁻¹ = (−R̄t, q̄, −R̄v)` on a valid `Y`) -/
theorem adj_inverse_rows (q : Quat K) (t v : V3 K) :
    adj (⟨(q.conj.toRot.mulVec t).neg, q.conj, (q.conj.toRot.mulVec v).neg⟩ : SE23 K) =
      ⟨q.conj.toRot, (M3.skew ((q.conj.toRot.mulVec t).neg)).mul q.conj.toRot, M3.zero,
       M3.zero, q.conj.toRot, M3.zero,
       M3.zero, (M3.skew ((q.conj.toRot.mulVec v).neg)).mul q.conj.toRot, q.conj.toRot⟩ := rfl

theorem adj_rows (X : SE23 K) :
    adj X = ⟨X.q.toRot, (M3.skew X.t).mul X.q.toRot, M3.zero, M3.zero, X.q.toRot, M3.zero,
      M3.zero, (M3.skew X.v).mul X.q.toRot, X.q.toRot⟩ := rfl

/-- **compose, first argument** (`J_mc_ma = Adj(Y⁻¹)`): position and velocity of `(X ⊞ εd)·Y` are those of
    `(X·Y) ⊞ ε(Adj(Y⁻¹) d)`. -/
theorem compose_Ja_parts (qx qy : Quat K) (tx ty vx vy dl da dv : V3 K) (hx : qx.sqn = 1) (hy : qy.sqn = 1) :
    ((((SO3.liftQ qx).mul (SO3.pertQ da)).toRot.mulVec (SE3.liftV ty)).add
        (((SO3.liftQ qx).toRot.mulVec (SE3.epsV dl)).add (SE3.liftV tx))) =
      ((((SO3.liftQ qx).mul (SO3.liftQ qy)).toRot.mulVec
          (SE3.epsV ((qy.conj.toRot.mulVec dl).add
            (((M3.skew ((qy.conj.toRot.mulVec ty).neg)).mul qy.conj.toRot).mulVec da)))).add
        (((SO3.liftQ qx).toRot.mulVec (SE3.liftV ty)).add (SE3.liftV tx))) ∧
    ((((SO3.liftQ qx).mul (SO3.pertQ da)).toRot.mulVec (SE3.liftV vy)).add
        (((SO3.liftQ qx).toRot.mulVec (SE3.epsV dv)).add (SE3.liftV vx))) =
      ((((SO3.liftQ qx).mul (SO3.liftQ qy)).toRot.mulVec
          (SE3.epsV ((qy.conj.toRot.mulVec dv).add
            (((M3.skew ((qy.conj.toRot.mulVec vy).neg)).mul qy.conj.toRot).mulVec da)))).add
        (((SO3.liftQ qx).toRot.mulVec (SE3.liftV vy)).add (SE3.liftV vx))) :=
  ⟨SE3.compose_Ja_trans qx qy tx ty dl da hx hy, SE3.compose_Ja_trans qx qy vx vy dv da hx hy⟩

/-- **compose, second argument** (`J_mc_mb = I`). -/
theorem compose_Jb_parts (qx qy : Quat K) (tx ty vx vy dl dv : V3 K) (hx : qx.sqn = 1) (hy : qy.sqn = 1) :
    (((SO3.liftQ qx).toRot.mulVec (((SO3.liftQ qy).toRot.mulVec (SE3.epsV dl)).add (SE3.liftV ty))).add (SE3.liftV tx) =
      (((SO3.liftQ qx).mul (SO3.liftQ qy)).toRot.mulVec (SE3.epsV dl)).add
        (((SO3.liftQ qx).toRot.mulVec (SE3.liftV ty)).add (SE3.liftV tx))) ∧
    (((SO3.liftQ qx).toRot.mulVec (((SO3.liftQ qy).toRot.mulVec (SE3.epsV dv)).add (SE3.liftV vy))).add (SE3.liftV vx) =
      (((SO3.liftQ qx).mul (SO3.liftQ qy)).toRot.mulVec (SE3.epsV dv)).add
        (((SO3.liftQ qx).toRot.mulVec (SE3.liftV vy)).add (SE3.liftV vx))) :=
  ⟨SE3.compose_Jb_trans qx qy tx ty dl hx hy, SE3.compose_Jb_trans qx qy vx vy dv hx hy⟩

/-- **inverse** (`J_minv_m = −Adj(X)`), position and velocity parts. -/
theorem inverse_J_parts (q : Quat K) (t v dl da dv : V3 K) (hq : q.sqn = 1) :
    ((((SO3.liftQ q).mul (SO3.pertQ da)).conj.toRot.mulVec
        (((SO3.liftQ q).toRot.mulVec (SE3.epsV dl)).add (SE3.liftV t))).neg) =
      (SE3.liftV ((q.conj.toRot.mulVec t).neg)).add
        ((SO3.liftQ q.conj).toRot.mulVec (SE3.epsV (((q.toRot.mulVec dl).add (((M3.skew t).mul q.toRot).mulVec da)).neg))) ∧
    ((((SO3.liftQ q).mul (SO3.pertQ da)).conj.toRot.mulVec
        (((SO3.liftQ q).toRot.mulVec (SE3.epsV dv)).add (SE3.liftV v))).neg) =
      (SE3.liftV ((q.conj.toRot.mulVec v).neg)).add
        ((SO3.liftQ q.conj).toRot.mulVec (SE3.epsV (((q.toRot.mulVec dv).add (((M3.skew v).mul q.toRot).mulVec da)).neg))) :=
  ⟨SE3.inverse_J_trans q t dl da hq, SE3.inverse_J_trans q v dv da hq⟩
end SE23

namespace SGal3

omit [IsStrictOrderedRing K] [LawfulTransc K] in
/-- `R_Y · ρ'` for the `ρ`-row of `Adj(Y⁻¹)`: `ρ + t_Y ν − ι v_Y + θ × p_Y` -/
theorem adj_inv_rho (q : Quat K) (hq : q.sqn = 1) (p v rho nu th : V3 K) (t iota : K) :
    q.toRot.mulVec ((((q.conj.toRot.mulVec rho).add ((M3.smul (-(-t)) q.conj.toRot).mulVec nu)).add
        (((M3.skew (((q.conj.toRot.mulVec (p.sub (v.smul t))).neg).sub (((q.conj.toRot.mulVec v).neg).smul (-t)))).mul q.conj.toRot).mulVec th)).add
        (((q.conj.toRot.mulVec v).neg).smul iota)) =
      ((rho.add (nu.smul t)).add ((M3.skew th).mulVec p)).sub (v.smul iota) := by
  -- every summand is `R̄ ·` something: pull `R̄` out, cancel `R R̄`; a `q`-free identity is left
  simp only [M3.smul_mulVec, M3.mul_mulVec, ← M3.mulVec_neg, ← M3.mulVec_smul, ← M3.mulVec_sub,
    ← Quat.toRot_cross _ (Quat.conj_unit q hq), ← M3.mulVec_add, Quat.toRot_mulVec_conj q hq]
  ext <;> msimp [M3.mulVec, M3.skew, V3.add, V3.sub, V3.neg, V3.smul] <;> ring1

/-- **SGal(3) compose, first argument, position part** (`J_mc_ma = Adj(Y⁻¹)`, `ρ` row incl. the time coupling):
    the position of `(X ⊞ εd)·Y` is that of `(X·Y) ⊞ ε(Adj(Y⁻¹) d)`. -/
theorem compose_Ja_pos (qx qy : Quat K) (px py vx vy rho nu th : V3 K) (ty iota : K) (hx : qx.sqn = 1) (hy : qy.sqn = 1) :
    (((((SO3.liftQ qx).mul (SO3.pertQ th)).toRot.mulVec (SE3.liftV py)).add
        ((((SO3.liftQ qx).toRot.mulVec (SE3.epsV nu)).add (SE3.liftV vx)).smul (Dual.lift ty))).add
        ((((SO3.liftQ qx).toRot.mulVec (SE3.epsV rho)).add ((SE3.liftV vx).smul (⟨0, iota⟩ : Dual K))).add (SE3.liftV px))) =
      (((((SO3.liftQ qx).mul (SO3.liftQ qy)).toRot.mulVec (SE3.epsV
          ((((qy.conj.toRot.mulVec rho).add ((M3.smul (-(-ty)) qy.conj.toRot).mulVec nu)).add
            (((M3.skew (((qy.conj.toRot.mulVec (py.sub (vy.smul ty))).neg).sub (((qy.conj.toRot.mulVec vy).neg).smul (-ty)))).mul qy.conj.toRot).mulVec th)).add
            (((qy.conj.toRot.mulVec vy).neg).smul iota)))).add
          ((((SO3.liftQ qx).toRot.mulVec (SE3.liftV vy)).add (SE3.liftV vx)).smul (⟨0, iota⟩ : Dual K))).add
        ((((SO3.liftQ qx).toRot.mulVec (SE3.liftV py)).add ((SE3.liftV vx).smul (Dual.lift ty))).add (SE3.liftV px))) := by
  rw [SE3.rot_mul_eps qx qy hx hy, adj_inv_rho qy hy]
  simp only [eps_split, SO3.toRot_mul_pertQ qx hx, M3.mulVec_add, M3.mulVec_sub, M3.mulVec_smul]
  -- linear in the vectors `R_X ·`
  congr 1 <;> ext <;> simp only [V3.add, V3.sub, V3.smul] <;> ring1

/-- velocity part: the SE3 lemma with `(t, dl) ↦ (v, ν)` — the `ν` row of `Adj(Y⁻¹)` is `[0, R, [v]×R, 0]`. -/
theorem compose_Ja_vel (qx qy : Quat K) (vx vy nu th : V3 K) (hx : qx.sqn = 1) (hy : qy.sqn = 1) :
    ((((SO3.liftQ qx).mul (SO3.pertQ th)).toRot.mulVec (SE3.liftV vy)).add
        (((SO3.liftQ qx).toRot.mulVec (SE3.epsV nu)).add (SE3.liftV vx))) =
      ((((SO3.liftQ qx).mul (SO3.liftQ qy)).toRot.mulVec
          (SE3.epsV ((qy.conj.toRot.mulVec nu).add
            (((M3.skew ((qy.conj.toRot.mulVec vy).neg)).mul qy.conj.toRot).mulVec th)))).add
        (((SO3.liftQ qx).toRot.mulVec (SE3.liftV vy)).add (SE3.liftV vx))) :=
  SE3.compose_Ja_trans qx qy vx vy nu th hx hy

/-- **SGal(3) compose, second argument, position part** (`J_mc_mb = I`): the position of `X·(Y ⊞ εd)` is that of
    `(X·Y) ⊞ εd` — `p_XY + R_XY ερ + v_XY ει`. -/
theorem compose_Jb_pos (qx qy : Quat K) (px py vx vy rho : V3 K) (ty iota : K) (hx : qx.sqn = 1) (hy : qy.sqn = 1) :
    ((((SO3.liftQ qx).toRot.mulVec ((((SO3.liftQ qy).toRot.mulVec (SE3.epsV rho)).add ((SE3.liftV vy).smul (⟨0, iota⟩ : Dual K))).add
          (SE3.liftV py))).add ((SE3.liftV vx).smul (Dual.lift ty + (⟨0, iota⟩ : Dual K)))).add (SE3.liftV px)) =
      (((((SO3.liftQ qx).mul (SO3.liftQ qy)).toRot.mulVec (SE3.epsV rho)).add
          ((((SO3.liftQ qx).toRot.mulVec (SE3.liftV vy)).add (SE3.liftV vx)).smul (⟨0, iota⟩ : Dual K))).add
        ((((SO3.liftQ qx).toRot.mulVec (SE3.liftV py)).add ((SE3.liftV vx).smul (Dual.lift ty))).add (SE3.liftV px))) := by
  have e : Dual.lift ty + (⟨0, iota⟩ : Dual K) = ⟨ty, iota⟩ :=
    Dual.ext (add_zero ty) (by rw [dual_add_du, dual_lift_du, zero_add])
  rw [SE3.rot_mul_eps qx qy hx hy, e]
  simp only [eps_split, M3.mulVec_add, M3.mulVec_smul]
  congr 1 <;> ext <;> simp only [V3.add, V3.smul] <;> ring1

/-- the rows of `adj (Y⁻¹)` used above (`Y⁻¹ = (−R̄(p − v t), q̄, −R̄ v, −t)` on a valid `Y`) -/
theorem adj_inverse_rows (q : Quat K) (p v : V3 K) (t : K) :
    adj (⟨(q.conj.toRot.mulVec (p.sub (v.smul t))).neg, q.conj, (q.conj.toRot.mulVec v).neg, -t⟩ : SGal3 K) =
      rows10 ⟨q.conj.toRot, M3.smul (-(-t)) q.conj.toRot,
          (M3.skew (((q.conj.toRot.mulVec (p.sub (v.smul t))).neg).sub (((q.conj.toRot.mulVec v).neg).smul (-t)))).mul q.conj.toRot,
          M3.zero, q.conj.toRot, (M3.skew ((q.conj.toRot.mulVec v).neg)).mul q.conj.toRot,
          M3.zero, M3.zero, q.conj.toRot⟩ ((q.conj.toRot.mulVec v).neg) V3.zero V3.zero (Scalar.nat 1) := rfl
/-- **SGal(3) act, w.r.t. the element** (`J_pout_m = [R | 0 | −R[x]× | v]`, the formula of `actJm`, written out):
    `(X ⊞ εd)·x = X·x + ε (R ρ − R [x]× θ + v ι)`. -/
theorem act_Jm (q : Quat K) (px vx x rho th : V3 K) (iota : K) (hq : q.sqn = 1) :
    (((((SO3.liftQ q).toRot.mulVec (SE3.epsV rho)).add ((SE3.liftV vx).smul (⟨0, iota⟩ : Dual K))).add (SE3.liftV px)).add
        (((SO3.liftQ q).mul (SO3.pertQ th)).toRot.mulVec (SE3.liftV x))) =
      ((SE3.liftV (px.add (q.toRot.mulVec x))).add
        (SE3.epsV (((q.toRot.mulVec rho).add ((q.toRot.neg.mul (M3.skew x)).mulVec th)).add (vx.smul iota)))) := by
  simp only [eps_split, SO3.toRot_mul_pertQ q hq]
  rw [M3.neg_mulVec, ← M3.mulVec_neg, ← M3.skew_mulVec_anticomm]
  congr 1 <;> ext <;> simp only [V3.add, V3.smul] <;> ring1

/-- **SGal(3) inverse, velocity part** (`J_minv_m = −Adj_X`, `ν` row `[0, R, [v]× R, 0]`): instance of the SE3 lemma. -/
theorem inverse_J_vel (q : Quat K) (v nu th : V3 K) (hq : q.sqn = 1) :
    ((((SO3.liftQ q).mul (SO3.pertQ th)).conj.toRot.mulVec
        (((SO3.liftQ q).toRot.mulVec (SE3.epsV nu)).add (SE3.liftV v))).neg) =
      (SE3.liftV ((q.conj.toRot.mulVec v).neg)).add
        ((SO3.liftQ q.conj).toRot.mulVec (SE3.epsV (((q.toRot.mulVec nu).add (((M3.skew v).mul q.toRot).mulVec th)).neg))) :=
  SE3.inverse_J_trans q v nu th hq
end SGal3
end Manif
