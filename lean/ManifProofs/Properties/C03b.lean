/-
  Properties/C03b.lean — C03, SO3 over ℝ, the closed-form branches of `exp` and `log` in polar form.
    * `exp(log X)` is `X` itself when w ≥ 0 and `−X` (the same rotation) when w < 0, exactly, for every unit
      quaternion whose vector part is above the switch-over of `log` (|v|² > eps);
    * `log(exp t) = t` for every tangent with `θ² > eps`, `θ ≤ π`, whose `exp` lies above log's switch-over.
  Both maps are written with the norms as variables: `exp t = (sin(θ/2)·t/θ, cos(θ/2))` with `θ = |t|`, and
  `log X = vec·(2α/s)` with `s = |vec|` and `α` the `atan2` that `log` takes (`Complex.arg`).  Up to the sign `ε` of
  the hemisphere of `w`, `β = εα` is the polar angle of `(|w|, s)`: `sin β = s`, `cos β = εw`, and `sin β ≤ β` keeps
  `log X` above `exp`'s own switch-over.
-/
import ManifProofs.Properties.C02
import Mathlib.Analysis.SpecialFunctions.Trigonometric.Bounds
namespace Manif
open Matrix

namespace V3
theorem sqNorm_muls (v : V3 ℝ) (k : ℝ) :
    (v.muls k).x * (v.muls k).x + ((v.muls k).y * (v.muls k).y + (v.muls k).z * (v.muls k).z) =
      k ^ 2 * (v.x * v.x + (v.y * v.y + v.z * v.z)) := by
  simp only [V3.muls]; ring

/-- the vector part `σ v / n` of an axis-angle quaternion has norm `σ` when `n = |v|` -/
theorem sqNorm_axis (v : V3 ℝ) {n : ℝ} (σ : ℝ) (hn : n ≠ 0) (hnn : n ^ 2 = v.x * v.x + (v.y * v.y + v.z * v.z)) :
    σ * (v.x / n) * (σ * (v.x / n)) + (σ * (v.y / n) * (σ * (v.y / n)) + σ * (v.z / n) * (σ * (v.z / n))) = σ ^ 2 := by
  field_simp
  linear_combination (-σ ^ 2) * hnn

/-- `|v · 2εβ/s| = 2β` when `s = |v|`, `ε = ±1` -/
theorem sqNorm_muls_polar (v : V3 ℝ) {s ε : ℝ} (β : ℝ) (hs : 0 < s) (hss : s ^ 2 = v.x * v.x + (v.y * v.y + v.z * v.z))
    (hε : ε * ε = 1) :
    (v.muls (2 * (ε * β) / s)).x * (v.muls (2 * (ε * β) / s)).x +
      ((v.muls (2 * (ε * β) / s)).y * (v.muls (2 * (ε * β) / s)).y +
        (v.muls (2 * (ε * β) / s)).z * (v.muls (2 * (ε * β) / s)).z) = (2 * β) ^ 2 := by
  rw [sqNorm_muls, ← hss, ← one_mul ((2 * β) ^ 2), ← hε]
  field_simp
end V3

namespace SO3

/-- `exp (v · 2εβ/s)`, `s = |v|`, `ε = ±1`, `β > 0`, is the quaternion `(sin β · εv/s, cos β)` -/
theorem expRaw_muls (v : V3 ℝ) {s β ε : ℝ} (hs : 0 < s) (hss : s ^ 2 = v.x * v.x + (v.y * v.y + v.z * v.z))
    (hε : ε * ε = 1) (hβ : 0 < β) (h : realEps < (2 * β) ^ 2) :
    SO3T.expRaw ⟨v.muls (2 * (ε * β) / s)⟩ =
      ⟨Real.sin β * (ε * v.x / s), Real.sin β * (ε * v.y / s), Real.sin β * (ε * v.z / s), Real.cos β⟩ := by
  rw [expRaw_polar ⟨v.muls (2 * (ε * β) / s)⟩ (by positivity) (V3.sqNorm_muls_polar v β hs hss hε).symm h,
    show (1 : ℝ) / 2 * (2 * β) = β by ring]
  simp only [V3.muls]
  congr 1
  · field_simp
  · field_simp
  · field_simp

theorem expRaw_unit (t : SO3T ℝ) (h : realEps < t.v.x * t.v.x + (t.v.y * t.v.y + t.v.z * t.v.z)) :
    (SO3T.expRaw t).sqn = 1 := by
  obtain ⟨θ, hθ, hθ2, h'⟩ := exists_norm h
  rw [expRaw_polar t hθ hθ2 h']
  have := V3.sqNorm_axis t.v (Real.sin (1 / 2 * θ)) hθ.ne' hθ2
  unfold Quat.sqn
  linear_combination this + Real.sin_sq_add_cos_sq (1 / 2 * θ)

theorem exp_ok (dbg : Bool) (t : SO3T ℝ) (h : realEps < t.v.x * t.v.x + (t.v.y * t.v.y + t.v.z * t.v.z)) :
    SO3T.exp dbg t = .ok ⟨SO3T.expRaw t⟩ :=
  make_ok dbg (X := ⟨SO3T.expRaw t⟩) (expRaw_unit t h)

/-- the half angle `log` computes for scalar part `w` and `|vec| = s`: `atan2 s w`, taken at `(-s, -w)` when `w < 0` -/
noncomputable def halfAngle (w s : ℝ) : ℝ := if w < 0 then Complex.arg ⟨-w, -s⟩ else Complex.arg ⟨w, s⟩

/-- `-1` on the hemisphere `w < 0`, `1` on the other -/
noncomputable def hemi (w : ℝ) : ℝ := if w < 0 then -1 else 1

theorem hemi_mul_self (w : ℝ) : hemi w * hemi w = 1 := by
  unfold hemi
  split
  · norm_num
  · norm_num

/-- `log` above its switch-over is `vec · (2α/s)`, `s = |vec|` -/
theorem log_generic (X : SO3 ℝ) {s : ℝ} (hs : 0 < s) (hss : s ^ 2 = X.q.x * X.q.x + (X.q.y * X.q.y + X.q.z * X.q.z))
    (h : realEps < s ^ 2) : log X = ⟨X.q.vec.muls (2 * halfAngle X.q.w s / s)⟩ := by
  simp only [log, Quat.vec, V3.sqNorm, sum3, scalar_gt, scalar_eps, transc_eps_real, h, decide_true, if_true,
    scalar_sqrt, transc_sqrt_real, scalar_nat, Nat.cast_zero, scalar_atan2, transc_atan2_real,
    Nat.cast_ofNat, halfAngle, decide_eq_true_eq, ← hss, Real.sqrt_sq hs.le]

/-- on a unit quaternion, `β = ±α` (the sign of the hemisphere) is the polar angle of `(|w|, s)`; `sin β ≤ β` keeps it
    above `s`. -/
theorem halfAngle_spec {w s : ℝ} (hs : 0 < s) (hu : w * w + s * s = 1) :
    Real.sin (hemi w * halfAngle w s) = s ∧ Real.cos (hemi w * halfAngle w s) = hemi w * w ∧
      s ≤ hemi w * halfAngle w s := by
  unfold halfAngle hemi
  split
  · have hu' : (-w) * (-w) + (-s) * (-s) = 1 := by linear_combination hu
    have hneg : Complex.arg ⟨-w, -s⟩ < 0 := by rw [Complex.arg_neg_iff]; simpa using hs
    have hle := Real.sin_le (x := -Complex.arg ⟨-w, -s⟩) (by linarith)
    rw [neg_one_mul, Real.sin_neg, Real.cos_neg, sin_arg_of_unit hu', cos_arg_of_unit hu']
    rw [Real.sin_neg, sin_arg_of_unit hu'] at hle
    exact ⟨neg_neg s, (neg_one_mul w).symm, by linarith⟩
  · have hnn : 0 ≤ Complex.arg ⟨w, s⟩ := by rw [Complex.arg_nonneg_iff]; exact hs.le
    have hle := Real.sin_le hnn
    rw [one_mul, sin_arg_of_unit hu, cos_arg_of_unit hu] at *
    exact ⟨rfl, (one_mul w).symm, hle⟩

/-- what both round trips need of a unit `X` above `log`'s switch-over: `log X = vec · 2εβ/s` with `sin β = s`,
    `cos β = ε w`, `ε = ±1` the hemisphere of `w`, and `β ≥ s` (so `exp` is above its own switch-over at `log X`) -/
theorem log_polar (X : SO3 ℝ) (hX : Valid X) {s : ℝ} (hs : 0 < s)
    (hss : s ^ 2 = X.q.x * X.q.x + (X.q.y * X.q.y + X.q.z * X.q.z)) (h : realEps < s ^ 2) :
    ∃ β : ℝ, 0 < β ∧ realEps < (2 * β) ^ 2 ∧ Real.sin β = s ∧ Real.cos β = hemi X.q.w * X.q.w ∧
      log X = ⟨X.q.vec.muls (2 * (hemi X.q.w * β) / s)⟩ := by
  have hu : X.q.w * X.q.w + s * s = 1 := by rw [← sq s, hss]; unfold Valid Quat.sqn at hX; linear_combination hX
  obtain ⟨hsin, hcos, hle⟩ := halfAngle_spec hs hu
  have hsq := pow_le_pow_left₀ hs.le hle 2
  refine ⟨_, hs.trans_le hle, ?_, hsin, hcos, ?_⟩
  · rw [mul_pow]; linarith [realEps_pos]
  · rw [← mul_assoc (hemi _), hemi_mul_self, one_mul]
    exact log_generic X hs hss h

/-- the quaternion `exp(log ·)` returns, `q` or `-q` (the fixed statements spell this `if` out) -/
noncomputable def canon (q : Quat ℝ) : Quat ℝ := if q.w < 0 then ⟨-q.x, -q.y, -q.z, -q.w⟩ else q

theorem canon_sqn (q : Quat ℝ) : (canon q).sqn = q.sqn := by
  unfold canon
  split
  · simp only [Quat.sqn, neg_mul_neg]
  · rfl

theorem toRot_canon (q : Quat ℝ) : (canon q).toRot = q.toRot := by
  unfold canon
  split
  · exact Quat.toRot_neg q
  · rfl

theorem mul_canon (q r : Quat ℝ) : q.mul (canon r) = if r.w < 0 then
    ⟨-(q.mul r).x, -(q.mul r).y, -(q.mul r).z, -(q.mul r).w⟩ else q.mul r := by
  unfold canon
  split
  · simp only [Quat.mul]; congr 1 <;> ring
  · rfl

/-- **SO3: `exp(log X)` is `X` (w ≥ 0) or `−X` (w < 0)** — the same rotation — for every unit
    quaternion whose vector part is above the switch-over (`|v|² > eps`). -/
theorem exp_log_generic (X : SO3 ℝ) (hX : Valid X)
    (h : realEps < X.q.x * X.q.x + (X.q.y * X.q.y + X.q.z * X.q.z)) :
    SO3T.expRaw (log X) = if X.q.w < 0 then ⟨-X.q.x, -X.q.y, -X.q.z, -X.q.w⟩ else X.q := by
  obtain ⟨s, hs, hss, h'⟩ := exists_norm h
  obtain ⟨β, hβ, hbig, hsin, hcos, hlog⟩ := log_polar X hX hs hss h'
  rw [hlog, expRaw_muls _ hs hss (hemi_mul_self _) hβ hbig, hsin, hcos]
  obtain ⟨⟨x, y, z, w⟩⟩ := X
  have hs0 := hs.ne'
  simp only [Quat.vec, mul_div_assoc, hemi]
  split
  · simp only [neg_one_mul, mul_neg, mul_div_cancel₀ _ hs0]
  · simp only [one_mul, mul_div_cancel₀ _ hs0]

/-- `log X` is on the closed-form branch of `exp` and away from the pole of `Jl⁻¹` -/
theorem log_generic_branch (X : SO3 ℝ) (hX : Valid X)
    (h : realEps < X.q.x * X.q.x + (X.q.y * X.q.y + X.q.z * X.q.z)) :
    realEps < (log X).v.x * (log X).v.x + ((log X).v.y * (log X).v.y + (log X).v.z * (log X).v.z) ∧
    Real.sin (Real.sqrt ((log X).v.x * (log X).v.x + ((log X).v.y * (log X).v.y + (log X).v.z * (log X).v.z)) / 2) ≠ 0 := by
  obtain ⟨s, hs, hss, h'⟩ := exists_norm h
  obtain ⟨β, hβ, hbig, hsin, hcos, hlog⟩ := log_polar X hX hs hss h'
  rw [hlog, V3.sqNorm_muls_polar X.q.vec β hs hss (hemi_mul_self _), Real.sqrt_sq (by linarith),
    mul_div_cancel_left₀ _ two_ne_zero, hsin]
  exact ⟨hbig, hs.ne'⟩

/-- **SO3: `log(exp t) = t`** (`θ` = |t|): closed-form branches, `θ ≤ π`.  `hsw` puts `exp t` above the switch-over of
    `log` (`|vec|² = sin²(θ/2) > eps`); given `θ ≤ π` it excludes only `θ` of the order of `2√eps`. -/
theorem log_exp (t : SO3T ℝ) (h : realEps < t.v.x * t.v.x + (t.v.y * t.v.y + t.v.z * t.v.z))
    (hpi : Real.sqrt (t.v.x * t.v.x + (t.v.y * t.v.y + t.v.z * t.v.z)) ≤ Real.pi)
    (hsw : realEps < Real.sin (1 / 2 * Real.sqrt (t.v.x * t.v.x + (t.v.y * t.v.y + t.v.z * t.v.z))) ^ 2) :
    log ⟨SO3T.expRaw t⟩ = t := by
  obtain ⟨hθ, hθ2⟩ := sqrt_pos_sq h
  generalize Real.sqrt (t.v.x * t.v.x + (t.v.y * t.v.y + t.v.z * t.v.z)) = θ at *
  -- `θ/2 ∈ (0, π/2]`: `sin > 0`, `cos ≥ 0`, and `atan2` returns `θ/2` itself
  have hspos : 0 < Real.sin (1 / 2 * θ) := Real.sin_pos_of_pos_of_lt_pi (by positivity) (by linarith [Real.pi_pos])
  have hcnn : ¬ Real.cos (1 / 2 * θ) < 0 :=
    not_lt.mpr (Real.cos_nonneg_of_mem_Icc ⟨by linarith [Real.pi_pos], by linarith⟩)
  rw [expRaw_polar t hθ hθ2 (hθ2.symm ▸ h), log_generic _ hspos (V3.sqNorm_axis t.v _ hθ.ne' hθ2).symm hsw,
    halfAngle, if_neg hcnn, arg_cos_sin (1 / 2 * θ) (by linarith [Real.pi_pos]) (by linarith [Real.pi_pos])]
  generalize Real.sin (1 / 2 * θ) = σ at *
  have hσ := hspos.ne'
  have hθ0 := hθ.ne'
  have e : ∀ a : ℝ, σ * (a / θ) * (2 * (1 / 2 * θ) / σ) = a := by intro a; field_simp
  simp only [Quat.vec, V3.muls, e]

/-- as rotations: `R(exp(log X)) = R(X)` -/
theorem rot_exp_log (X : SO3 ℝ) (hX : Valid X)
    (h : realEps < X.q.x * X.q.x + (X.q.y * X.q.y + X.q.z * X.q.z)) :
    Quat.toRot (SO3T.expRaw (log X)) = Quat.toRot X.q := by
  rw [exp_log_generic X hX h]
  exact toRot_canon X.q

theorem exp_log_api (dbg : Bool) (X : SO3 ℝ) (hX : Valid X)
    (h : realEps < X.q.x * X.q.x + (X.q.y * X.q.y + X.q.z * X.q.z)) :
    SO3T.exp dbg (log X) = .ok ⟨canon X.q⟩ := by
  unfold SO3T.exp
  rw [exp_log_generic X hX h]
  exact make_ok dbg (X := ⟨canon X.q⟩) (by unfold Valid; rw [canon_sqn]; exact hX)
end SO3
end Manif
