/-
  C07 (continued) — the Lie-algebra structure of the larger groups SE3, SE_2(3), SGal(3):
  generator tables (regenerated from /repo), rejection of every other index, vee ∘ hat = id,
  hat = Σ tᵢ Generator(i) (linearity), and Bracket(a,b) = smallAdj(a)·b realises the matrix commutator
  of the hats.  Exact identities over every ordered field.
  The hats are block-triangular (`hatRows_eq_blk`), so linearity and the commutator are those of `blk`
  together with the cross-product facts `M3.skew_add/smul/bracket/mulVec_anticomm`.
-/
import ManifProofs.Properties.C07
import ManifProofs.Lemmas.Block
import ManifProofs.Lemmas.Tree

namespace Manif
open Matrix

variable {K : Type} [Field K] [LinearOrder K] [IsStrictOrderedRing K] [Transc K]

theorem dotTree_eq_sum (a b : List K) : dotTree a b = (List.zipWith (· * ·) a b).sum :=
  dotTree_eq a b

namespace SE3T

def ofFn6 (c : Fin 6 → K) : SE3T K := ⟨⟨c 0, c 1, c 2⟩, ⟨c 3, c 4, c 5⟩⟩

theorem generator_table (i : Fin 6) :
    genFromTable (K := K) Generated.SE3GenTable Generated.SE3GenErr (i : ℕ) =
      .ok (hatRows (ofFn6 fun j => if j = i then 1 else 0)) := by
  fin_cases i <;>
    simp [genFromTable, Generated.SE3GenTable, hatRows, ofFn6, Fin.ext_iff]

theorem generator_out_of_range (i : Int) (h : i < 0 ∨ 6 ≤ i) :
    genFromTable (K := K) Generated.SE3GenTable Generated.SE3GenErr i = .error .invalid_argument :=
  genFromTable_out_of_range _ _ i h

theorem vee_hat (t : SE3T K) : vee (hatRows t) = t := by
  rcases t with ⟨⟨a, b, c⟩, ⟨d, e, f⟩⟩; simp [vee, hatRows]

/-- `hat` is linear: `hat(c•a + b) = c•hat a + hat b` (hence `hat t = Σ tᵢ Generator(i)`). -/
theorem hat_linear (c : K) (a b : SE3T K) :
    matOfRows 4 (hatRows ⟨(a.lin.smul c).add b.lin, (a.ang.smul c).add b.ang⟩) =
      c • matOfRows 4 (hatRows a) + matOfRows 4 (hatRows b) := by
  rw [hatRows_eq_blk, hatRows_eq_blk, hatRows_eq_blk, blk_smul, blk_add, M3.toMatrix_skew_linear, smul_col1,
    col1_add, V3.toVec_add, V3.toVec_smul, smul_zero, add_zero]

/-- `Bracket(a,b) = a.smallAdj() * b`, and its hat is the commutator of the hats. -/
theorem bracket_hat (a b : SE3T K) :
    let A := smallAdj a
    matOfRows 4 (hatRows ⟨(A.tl.mulVec b.lin).add (A.tr.mulVec b.ang), (A.bl.mulVec b.lin).add (A.br.mulVec b.ang)⟩) =
      matOfRows 4 (hatRows a) * matOfRows 4 (hatRows b) - matOfRows 4 (hatRows b) * matOfRows 4 (hatRows a) := by
  intro A
  -- `[[W_a l_a; 0 0], [W_b l_b; 0 0]] = [[W_a, W_b], W_a l_b − W_b l_a; 0 0]`, and `[l_a]× ω_b = −W_b l_a`
  have hang : (A.bl.mulVec b.lin).add (A.br.mulVec b.ang) = (M3.skew a.ang).mulVec b.ang := by
    simp only [A, smallAdj, M3.zero_mulVec, V3.zero_add]
  rw [hatRows_eq_blk, hatRows_eq_blk, hatRows_eq_blk, blk_mul, blk_mul, blk_sub, hang, M3.skew_bracket]
  simp only [A, smallAdj, M3.toMatrix_sub, M3.toMatrix_mul, mul_col1, Matrix.mul_zero, add_zero, col1_sub, sub_self,
    V3.toVec_add, M3.toVec_mulVec, M3.skew_mulVec_anticomm a.lin, V3.toVec_neg, ← sub_eq_add_neg]

/-- the model's `Bracket` call (`matVecFlat 6 (smallAdj a) b`, Eigen's reduction tree) is the block expression of `bracket_hat` -/
theorem bracket_model (a b : SE3T K) :
    let A := smallAdj a
    matVecFlat 6 A.toList b.toList =
      (⟨(A.tl.mulVec b.lin).add (A.tr.mulVec b.ang), (A.bl.mulVec b.lin).add (A.br.mulVec b.ang)⟩ : SE3T K).toList := by
  simp [matVecFlat, dotTree, treeSum, M6.toList, toList, smallAdj, V3.toList, M3.row0, M3.row1, M3.row2, M3.skew, M3.zero, M3.mulVec, V3.add,
    List.range, List.range.loop, sum3]

end SE3T

namespace SE23T

def ofFn9 (c : Fin 9 → K) : SE23T K := ⟨⟨c 0, c 1, c 2⟩, ⟨c 3, c 4, c 5⟩, ⟨c 6, c 7, c 8⟩⟩

theorem generator_table (i : Fin 9) :
    genFromTable (K := K) Generated.SE23GenTable Generated.SE23GenErr (i : ℕ) =
      .ok (hatRows (ofFn9 fun j => if j = i then 1 else 0)) := by
  fin_cases i <;>
    simp [genFromTable, Generated.SE23GenTable, hatRows, ofFn9, Fin.ext_iff]

theorem generator_out_of_range (i : Int) (h : i < 0 ∨ 9 ≤ i) :
    genFromTable (K := K) Generated.SE23GenTable Generated.SE23GenErr i = .error .invalid_argument :=
  genFromTable_out_of_range _ _ i h

theorem vee_hat (t : SE23T K) : vee (hatRows t) = t := by
  rcases t with ⟨⟨a, b, c⟩, ⟨d, e, f⟩, ⟨g, h, k⟩⟩; simp [vee, hatRows]

theorem hat_linear (c : K) (a b : SE23T K) :
    matOfRows 5 (hatRows ⟨(a.lin.smul c).add b.lin, (a.ang.smul c).add b.ang, (a.lin2.smul c).add b.lin2⟩) =
      c • matOfRows 5 (hatRows a) + matOfRows 5 (hatRows b) := by
  rw [hatRows_eq_blk, hatRows_eq_blk, hatRows_eq_blk, blk_smul, blk_add, M3.toMatrix_skew_linear, smul_cols2,
    cols2_add, V3.toVec_add, V3.toVec_smul, V3.toVec_add, V3.toVec_smul, smul_zero, add_zero]

theorem bracket_hat (a b : SE23T K) :
    let A := smallAdj a
    matOfRows 5 (hatRows
      ⟨((A.b00.mulVec b.lin).add (A.b01.mulVec b.ang)).add (A.b02.mulVec b.lin2),
       ((A.b10.mulVec b.lin).add (A.b11.mulVec b.ang)).add (A.b12.mulVec b.lin2),
       ((A.b20.mulVec b.lin).add (A.b21.mulVec b.ang)).add (A.b22.mulVec b.lin2)⟩) =
      matOfRows 5 (hatRows a) * matOfRows 5 (hatRows b) - matOfRows 5 (hatRows b) * matOfRows 5 (hatRows a) := by
  intro A
  have hang : ((A.b10.mulVec b.lin).add (A.b11.mulVec b.ang)).add (A.b12.mulVec b.lin2) =
      (M3.skew a.ang).mulVec b.ang := by
    simp only [A, smallAdj, M3.zero_mulVec, V3.zero_add, V3.add_zero]
  rw [hatRows_eq_blk, hatRows_eq_blk, hatRows_eq_blk, blk_mul, blk_mul, blk_sub, hang, M3.skew_bracket]
  simp only [A, smallAdj, M3.toMatrix_sub, M3.toMatrix_mul, M3.toMatrix_zero, Matrix.zero_mulVec, mul_cols2,
    Matrix.mul_zero, add_zero, zero_add, cols2_sub, sub_self, V3.toVec_add, M3.toVec_mulVec,
    M3.skew_mulVec_anticomm a.lin, M3.skew_mulVec_anticomm a.lin2, V3.toVec_neg]
  congr 2 <;> abel

end SE23T

namespace SGal3T

def ofFn10 (c : Fin 10 → K) : SGal3T K := ⟨⟨c 0, c 1, c 2⟩, ⟨c 3, c 4, c 5⟩, ⟨c 6, c 7, c 8⟩, c 9⟩

theorem generator_table (i : Fin 10) :
    genFromTable (K := K) Generated.SGal3GenTable Generated.SGal3GenErr (i : ℕ) =
      .ok (hatRows (ofFn10 fun j => if j = i then 1 else 0)) := by
  fin_cases i <;>
    simp [genFromTable, Generated.SGal3GenTable, hatRows, ofFn10, Fin.ext_iff]

theorem generator_out_of_range (i : Int) (h : i < 0 ∨ 10 ≤ i) :
    genFromTable (K := K) Generated.SGal3GenTable Generated.SGal3GenErr i = .error .invalid_argument :=
  genFromTable_out_of_range _ _ i h

theorem vee_hat (t : SGal3T K) : vee (hatRows t) = t := by
  rcases t with ⟨⟨a, b, c⟩, ⟨d, e, f⟩, ⟨g, h, k⟩, s⟩; simp [vee, hatRows]

theorem hat_linear (c : K) (a b : SGal3T K) :
    matOfRows 5 (hatRows ⟨(a.lin.smul c).add b.lin, (a.lin2.smul c).add b.lin2, (a.ang.smul c).add b.ang, c * a.t + b.t⟩) =
      c • matOfRows 5 (hatRows a) + matOfRows 5 (hatRows b) := by
  rw [hatRows_eq_blk, hatRows_eq_blk, hatRows_eq_blk, blk_smul, blk_add, M3.toMatrix_skew_linear, smul_cols2,
    cols2_add, V3.toVec_add, V3.toVec_smul, V3.toVec_add, V3.toVec_smul, nil2_linear]

/-- the rows of `smallAdj a` applied to `b` (order `ρ, ν, θ, ι`), with plain sums -/
def bracket (a b : SGal3T K) : SGal3T K :=
  let r := (smallAdj a).map fun row => (List.zipWith (· * ·) row [b.lin.x, b.lin.y, b.lin.z, b.lin2.x, b.lin2.y, b.lin2.z,
    b.ang.x, b.ang.y, b.ang.z, b.t]).sum
  ofFn10 fun i => r.getD i 0

omit [IsStrictOrderedRing K] in
/-- `Bracket(a, b)` in vector form (`ρ ν θ ι` order) -/
theorem bracket_eq (a b : SGal3T K) :
    bracket a b =
      ⟨((((M3.skew a.ang).mulVec b.lin).sub (b.lin2.smul a.t)).add ((M3.skew a.lin).mulVec b.ang)).add (a.lin2.smul b.t),
       ((M3.skew a.ang).mulVec b.lin2).add ((M3.skew a.lin2).mulVec b.ang),
       (M3.skew a.ang).mulVec b.ang, 0⟩ := by
  simp [bracket, ofFn10, smallAdj, rows10, M3.skew, M3.zero, M3.one, M3.smul, M3.map, M3.row0, M3.row1, M3.row2,
    V3.zero, M3.mulVec, V3.add, V3.sub, V3.smul, sum3]
  refine ⟨⟨?_, ?_, ?_⟩, ?_, ?_, ?_⟩ <;> ring

theorem bracket_hat (a b : SGal3T K) :
    matOfRows 5 (hatRows (bracket a b)) =
      matOfRows 5 (hatRows a) * matOfRows 5 (hatRows b) - matOfRows 5 (hatRows b) * matOfRows 5 (hatRows a) := by
  -- with `B = [ν ρ]`, `N = [0 ι; 0 0]`: the columns of the commutator are `W_a B_b + B_a N_b − W_b B_a − B_b N_a`,
  -- its corner `N_a N_b − N_b N_a` vanishes
  rw [bracket_eq, hatRows_eq_blk, hatRows_eq_blk, hatRows_eq_blk, blk_mul, blk_mul, blk_sub, M3.skew_bracket,
    nil2_mul, nil2_mul, sub_self, nil2_zero]
  simp only [M3.toMatrix_sub, M3.toMatrix_mul, mul_cols2, cols2_mul, cols2_add, cols2_sub, V3.toVec_add,
    V3.toVec_sub, V3.toVec_smul, M3.toVec_mulVec, M3.skew_mulVec_anticomm a.lin, M3.skew_mulVec_anticomm a.lin2,
    V3.toVec_neg, of_apply, cons_val', cons_val_zero, cons_val_one, cons_val_fin_one, zero_smul, add_zero]
  congr 2 <;> abel

/-- the model's `Bracket` call (`matVecFlat 10`, Eigen's reduction tree) computes `bracket`: the tree is
    the plain sum (`dotTree_eq_sum`) and the rows are those of `smallAdj` -/
theorem bracket_model (a b : SGal3T K) :
    matVecFlat 10 (smallAdj a).flatten b.toList = (bracket a b).toList := by
  simp only [matVecFlat, dotTree_eq_sum, bracket, ofFn10, toList]
  simp [smallAdj, rows10, M3.row0, M3.row1, M3.row2, V3.toList, List.range, List.range.loop]

end SGal3T

example : SE3T.vee (SE3T.hatRows (⟨⟨1, 2, 3⟩, ⟨-1, 1/2, 7⟩⟩ : SE3T ℚ)) = ⟨⟨1, 2, 3⟩, ⟨-1, 1/2, 7⟩⟩ := SE3T.vee_hat _
end Manif
