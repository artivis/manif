/-
  C09 — optional outputs are transparent; operations are pure and deterministic (model part).
  For EVERY group (any record of primitives) and every input:
    * requesting any subset of the optional Jacobians never changes the returned value of
      rminus / lminus, nor of rplus / between whenever the call with Jacobians succeeds at all
      (their Jacobians can themselves raise);
    * each Jacobian of rminus / lminus is the same whichever other Jacobian is requested with it —
      `lminus` computes `J_t_mb` as `-(*J_t_ma)` when both are requested and by a separate product otherwise;
    * the model's operations are functions: no state, no history (determinism is definitional;
      the implementation's is observed by re-issuing every call, purity.py).
-/
import ManifModel
import ManifProofs.Lemmas.GroupOps

namespace Manif
variable {K G T J : Type} (o : GroupOps K G T J)

/-- reading the value off a successful call -/
def okVal {A : Type} (r : Except Err (Out2 A J)) : Option A :=
  match r with
  | .ok x => some x.val
  | .error _ => none

theorem okVal_eq {A : Type} (r : Except Err (Out2 A J)) : okVal r = (r.map (·.val)).toOption := by
  cases r <;> rfl

theorem rminus_value_indep (dbg : Bool) (X Y : G) (a b : Bool) :
    okVal (o.rminus dbg X Y a b) = okVal (o.rminus dbg X Y false false) := by
  simp only [okVal_eq, o.rminus_mask, Except.map_map]

theorem lminus_value_indep (dbg : Bool) (X Y : G) (a b : Bool) :
    okVal (o.lminus dbg X Y a b) = okVal (o.lminus dbg X Y false false) := by
  simp only [okVal_eq, o.lminus_mask, Except.map_map]

/-- `lminus`: the second Jacobian is the same whether or not the first is requested
    (two different code paths in the source). -/
theorem lminus_jb_indep (dbg : Bool) (X Y : G) :
    (o.lminus dbg X Y true true).map (·.j2) = (o.lminus dbg X Y false true).map (·.j2) := by
  simp only [o.lminus_mask, Except.map_map]

theorem lminus_ja_indep (dbg : Bool) (X Y : G) :
    (o.lminus dbg X Y true true).map (·.j1) = (o.lminus dbg X Y true false).map (·.j1) := by
  simp only [o.lminus_mask, Except.map_map]

theorem rminus_j_indep (dbg : Bool) (X Y : G) :
    (o.rminus dbg X Y true true).map (·.j1) = (o.rminus dbg X Y true false).map (·.j1) ∧
    (o.rminus dbg X Y true true).map (·.j2) = (o.rminus dbg X Y false true).map (·.j2) := by
  simp only [o.rminus_mask, Except.map_map, and_self]

/-- `rplus`: when the call with Jacobians succeeds, the plain call returns the same value.  (Nothing of the kind is
    stated for `lplus`.) -/
theorem rplus_value_indep (dbg : Bool) (X : G) (t : T) (a b : Bool) (r : Out2 G J)
    (h : o.rplus dbg X t a b = .ok r) :
    okVal (o.rplus dbg X t false false) = some r.val := by
  unfold GroupOps.rplus at h
  obtain ⟨e, he, h⟩ := Except.bind_eq_ok.mp h
  -- both branches of the mask feed the same continuation
  cases a
  all_goals
    obtain ⟨jm, -, h⟩ := Except.bind_eq_ok.mp h
    obtain ⟨z, hz, h⟩ := Except.bind_eq_ok.mp h
    cases h
    rw [o.rplus_plain, Except.bind_eq_ok.mpr ⟨e, he, hz⟩]
    rfl

/-- `between`: the same. -/
theorem between_value_indep (dbg : Bool) (X Y : G) (a b : Bool) (r : Out2 G J)
    (h : o.between dbg X Y a b = .ok r) :
    okVal (o.between dbg X Y false false) = some r.val := by
  unfold GroupOps.between at h
  obtain ⟨xi, hi, h⟩ := Except.bind_eq_ok.mp h
  obtain ⟨mc, hc, h⟩ := Except.bind_eq_ok.mp h
  cases a
  all_goals
    obtain ⟨ja, -, h⟩ := Except.bind_eq_ok.mp h
    cases h
    rw [o.between_plain, Except.bind_eq_ok.mpr ⟨xi, hi, hc⟩]
    rfl

end Manif
