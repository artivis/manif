/-
  C07 — Lie-algebra structure: hat, vee, generators, bracket, inner product.
  Exact identities over every ordered field (hence exact-rational and real scalars).
  The generator tables are regenerated from /repo (ManifModel/Generated/Generators.lean), so
  `generator_table` is a statement about the tables in the code.
-/
import ManifProofs.Lemmas.Mat
import ManifProofs.Inst.Rat
import Mathlib.LinearAlgebra.Matrix.Trace
import Mathlib.Tactic.NormNum
import Mathlib.Tactic.Linarith

namespace Manif
open Matrix

variable {K : Type} [Field K] [LinearOrder K] [IsStrictOrderedRing K] [Transc K]

/-- `e_i` of a 3-dof tangent as coefficients. -/
def basis3 (i : Fin 3) : K × K × K :=
  match i with
  | 0 => (1, 0, 0)
  | 1 => (0, 1, 0)
  | 2 => (0, 0, 1)

section
omit [IsStrictOrderedRing K]
@[simp] theorem ofInt_zero : (ofInt 0 : K) = 0 := by simp [ofInt]
@[simp] theorem ofInt_one : (ofInt 1 : K) = 1 := by simp [ofInt]
@[simp] theorem ofInt_neg_one : (ofInt (-1) : K) = -1 := by simp [ofInt]
end

theorem matVecFlat3 (m : M3 K) (v : V3 K) :
    matVecFlat 3 m.toList v.toList = (m.mulVec v).toList := by
  simp [matVecFlat, dotTree, treeSum, M3.toList, V3.toList, M3.mulVec, List.range, List.range.loop, sum3]

omit [IsStrictOrderedRing K] in
/-- every index outside the table (negative ones included: they wrap to a huge `unsigned`) gets the
    table's error -/
theorem genFromTable_out_of_range (tbl : List (List Int)) (err : Err) (i : Int)
    (h : i < 0 ∨ (tbl.length : Int) ≤ i) : genFromTable (K := K) tbl err i = .error err := by
  unfold genFromTable
  rcases h with h | h
  · rw [if_pos h]
  · rw [if_neg (by omega), List.getElem?_eq_none (by omega)]

namespace SE2T

/-- **generators**: for `0 ≤ i < 3` the table entry is `hat(e_i)`; any other index raises
    `invalid_argument` (`generator_out_of_range`). -/
theorem generator_table (i : Fin 3) :
    genFromTable (K := K) Generated.SE2GenTable Generated.SE2GenErr (i : ℕ) =
      .ok (hat ⟨(basis3 i).1, (basis3 i).2.1, (basis3 i).2.2⟩).toList := by
  fin_cases i <;>
    simp [genFromTable, Generated.SE2GenTable, basis3, hat, M3.toList]

theorem generator_out_of_range (i : Int) (h : i < 0 ∨ 3 ≤ i) :
    genFromTable (K := K) Generated.SE2GenTable Generated.SE2GenErr i = .error .invalid_argument :=
  genFromTable_out_of_range _ _ i h

/-- **hat is linear** -/
theorem hat_add (a b : SE2T K) :
    (hat ⟨a.x + b.x, a.y + b.y, a.ang + b.ang⟩).toMatrix = (hat a).toMatrix + (hat b).toMatrix := by
  rw [← M3.toMatrix_add]
  congr 1
  ext <;> msimp [hat, M3.add, M3.zip] <;> ring

theorem hat_smul (c : K) (a : SE2T K) :
    (hat ⟨c * a.x, c * a.y, c * a.ang⟩).toMatrix = c • (hat a).toMatrix := by
  rw [← M3.toMatrix_smul]
  congr 1
  ext <;> msimp [hat, M3.smul, M3.map] <;> ring

/-- `t.hat() = Σ t_i Generator(i)` -/
theorem hat_eq_sum_generators (t : SE2T K) :
    (hat t).toMatrix = t.x • (hat (⟨1, 0, 0⟩ : SE2T K)).toMatrix + t.y • (hat (⟨0, 1, 0⟩ : SE2T K)).toMatrix
      + t.ang • (hat (⟨0, 0, 1⟩ : SE2T K)).toMatrix := by
  rw [← M3.toMatrix_smul, ← M3.toMatrix_smul, ← M3.toMatrix_smul, ← M3.toMatrix_add, ← M3.toMatrix_add]
  congr 1
  ext <;> msimp [hat, M3.add, M3.zip, M3.smul, M3.map] <;> ring

theorem vee_hat (t : SE2T K) : vee (hat t) = t := by
  cases t; simp [vee, hat]

/-- `Bracket(a,b) = a.smallAdj() * b` and its hat is the commutator. -/
theorem bracket_hat (a b : SE2T K) :
    let c := (smallAdj a).mulVec ⟨b.x, b.y, b.ang⟩
    (hat ⟨c.x, c.y, c.z⟩).toMatrix =
      (hat a).toMatrix * (hat b).toMatrix - (hat b).toMatrix * (hat a).toMatrix := by
  intro c
  rw [← M3.toMatrix_mul, ← M3.toMatrix_mul, ← M3.toMatrix_sub]
  congr 1
  ext <;> msimp [c, hat, smallAdj, M3.mulVec, M3.mul, M3.sub, M3.zip] <;> ring

/-- `aᵀ W b` with `W = diag(1,1,2)`, the value `a.inner(b)` has, is the Frobenius product of the hats
    (the left side is that expression, not the model's `inner`). -/
theorem inner_eq_frobenius (a b : SE2T K) :
    a.x * b.x + a.y * b.y + 2 * (a.ang * b.ang) =
      ((hat a).toMatrix * ((hat b).toMatrix)ᵀ).trace := by
  simp [hat, M3.toMatrix, Matrix.trace, Matrix.vecMul, dotProduct, Fin.sum_univ_three]; ring

/-- the inner weights computed from the (regenerated) generator table are `diag(1,1,2)`:
    symmetric and positive definite. -/
theorem innerWeights_table :
    innerWeightsOfTable (K := K) Generated.SE2GenTable = [1, 0, 0, 0, 1, 0, 0, 0, 2] := by
  simp [innerWeightsOfTable, Generated.SE2GenTable, ofInt]

theorem innerWeights_posdef (a : SE2T K) (h : a.x ≠ 0 ∨ a.y ≠ 0 ∨ a.ang ≠ 0) :
    0 < a.x * a.x + a.y * a.y + 2 * (a.ang * a.ang) := by
  have hx := mul_self_nonneg a.x
  have hy := mul_self_nonneg a.y
  have hz := mul_self_nonneg a.ang
  -- one square is positive, the others are not negative
  rcases h with h | h | h
  · linarith [mul_self_pos.mpr h]
  · linarith [mul_self_pos.mpr h]
  · linarith [mul_self_pos.mpr h]

example : vee (hat (⟨3, -7, 1/2⟩ : SE2T ℚ)) = ⟨3, -7, 1/2⟩ := vee_hat _
end SE2T

namespace SO3T

theorem generator_table (i : Fin 3) :
    genFromTable (K := K) Generated.SO3GenTable Generated.SO3GenErr (i : ℕ) =
      .ok (hat ⟨⟨(basis3 i).1, (basis3 i).2.1, (basis3 i).2.2⟩⟩).toList := by
  fin_cases i <;>
    simp [genFromTable, Generated.SO3GenTable, basis3, hat, M3.skew, M3.toList]

theorem generator_out_of_range (i : Int) (h : i < 0 ∨ 3 ≤ i) :
    genFromTable (K := K) Generated.SO3GenTable Generated.SO3GenErr i = .error .invalid_argument :=
  genFromTable_out_of_range _ _ i h

theorem hat_add (a b : SO3T K) :
    (hat ⟨a.v.add b.v⟩).toMatrix = (hat a).toMatrix + (hat b).toMatrix := by
  rw [hat, M3.skew_add, M3.toMatrix_add]
  rfl

theorem hat_smul (c : K) (a : SO3T K) :
    (hat ⟨V3.smul c a.v⟩).toMatrix = c • (hat a).toMatrix := by
  rw [hat, M3.skew_smul, M3.toMatrix_smul]
  rfl

theorem vee_hat (t : SO3T K) : vee (hat t) = t := by
  rcases t with ⟨⟨x, y, z⟩⟩; simp [vee, hat, M3.skew]

/-- `smallAdj = hat`, and `hat(hat(a) b) = [hat a, hat b]` (the cross product is the bracket). -/
theorem bracket_hat (a b : SO3T K) :
    (hat ⟨(smallAdj a).mulVec b.v⟩).toMatrix =
      (hat a).toMatrix * (hat b).toMatrix - (hat b).toMatrix * (hat a).toMatrix := by
  rw [← M3.toMatrix_mul, ← M3.toMatrix_mul, ← M3.toMatrix_sub]
  exact congrArg M3.toMatrix (M3.skew_bracket a.v b.v)

theorem bracket_antisymm (a b : SO3T K) :
    (smallAdj a).mulVec b.v = ((smallAdj b).mulVec a.v).neg :=
  M3.skew_mulVec_anticomm a.v b.v

theorem jacobi (a b c : SO3T K) :
    let br (u v : V3 K) : V3 K := (M3.skew u).mulVec v
    ((br a.v (br b.v c.v)).add (br b.v (br c.v a.v))).add (br c.v (br a.v b.v)) = ⟨0, 0, 0⟩ := by
  simp [M3.skew, M3.mulVec, V3.add, sum3]
  refine ⟨?_, ?_, ?_⟩ <;> ring

theorem inner_eq_frobenius (a b : SO3T K) :
    2 * (a.v.x * b.v.x + a.v.y * b.v.y + a.v.z * b.v.z) =
      ((hat a).toMatrix * ((hat b).toMatrix)ᵀ).trace := by
  simp [hat, M3.skew, M3.toMatrix, Matrix.trace, Matrix.vecMul, dotProduct, Fin.sum_univ_three]; ring

theorem innerWeights_table :
    innerWeightsOfTable (K := K) Generated.SO3GenTable = [2, 0, 0, 0, 2, 0, 0, 0, 2] := by
  simp [innerWeightsOfTable, Generated.SO3GenTable, ofInt]
end SO3T

end Manif
