/-
  C17 — De Casteljau: the window structure, for ALL N, d, closed (no bound).
  `dcWindows` is the index arithmetic of decasteljau.h with its `unsigned` subtractions checked.
  Proved: the rejecting inputs raise; otherwise no subtraction wraps, every window has exactly
  `d` in-bounds indices, consecutive windows overlap by one point, the number of windows is
  maximal (`(N-1)/(d-1)`, fewer than `d-1` trailing points unused), and the closed curve adds one
  window that wraps to the start.
-/
import ManifModel
import ManifProofs.Lemmas.Except
import Mathlib.Tactic.Ring
import Mathlib.Tactic.Linarith
import Mathlib.Algebra.Order.Ring.Nat

namespace Manif

/-- the open windows: window `t` is `[t(d-1), …, t(d-1)+d-1]` -/
def dcSegs (N d : Nat) : List (List Nat) :=
  (List.range ((N - d) / (d - 1) + 1)).map fun t => (List.range d).map fun n => t * (d - 1) + n

/-- the closing window: the left-over tail followed by the first points -/
def dcWrap (N d : Nat) : List Nat :=
  let last := ((N - d) / (d - 1) + 1) * (d - 1)
  (List.range (N - last)).map (· + last) ++ List.range (d - (N - 1 - last) - 1)

theorem nseg_eq (N d : Nat) (hd2 : 2 ≤ d) (hdN : d ≤ N) :
    (N - d) / (d - 1) + 1 = (N - 1) / (d - 1) := by
  rw [show N - 1 = (N - d) + (d - 1) by omega, Nat.add_div_right _ (by omega)]

/-- `nseg (d-1) ≤ N-1` and the left-over is `< d-1`: the number of windows is maximal
    (quotient and remainder of `N-1` by `d-1`). -/
theorem nseg_bounds (N d : Nat) (hd2 : 2 ≤ d) (hdN : d ≤ N) :
    ((N - d) / (d - 1) + 1) * (d - 1) ≤ N - 1 ∧
    N - 1 - ((N - d) / (d - 1) + 1) * (d - 1) < d - 1 := by
  rw [nseg_eq N d hd2 hdN, ← Nat.mod_eq_sub_div_mul]
  exact ⟨Nat.div_mul_le_self _ _, Nat.mod_lt _ (by omega)⟩

theorem dcWindows_rejects (N d : Nat) (cl : Bool) (h : N ≤ 2 ∨ N < d) :
    dcWindows N d cl = .error .runtime_error := by
  unfold dcWindows
  by_cases h2 : N > 2
  · have : ¬ d ≤ N := by omega
    simp [h2, this]
  · simp [h2]

theorem dcWindows_open (N d : Nat) (hN : 2 < N) (hdN : d ≤ N) :
    dcWindows N d false = .ok (dcSegs N d) := by
  unfold dcWindows dcSegs
  simp [hN, hdN, pure, Except.pure]

/-- **closed curve**: the same windows plus the wrapping one; **no unsigned subtraction wraps**. -/
theorem dcWindows_closed (N d : Nat) (hN : 2 < N) (hd2 : 2 ≤ d) (hdN : d ≤ N) :
    dcWindows N d true = .ok (dcSegs N d ++ [dcWrap N d]) := by
  obtain ⟨b1, b2⟩ := nseg_bounds N d hd2 hdN
  unfold dcWindows dcSegs dcWrap usub
  -- `b1`, `c2`, `c3`: none of the three `usub` calls wraps
  have c2 : N - 1 - ((N - d) / (d - 1) + 1) * (d - 1) ≤ d := by omega
  have c3 : 1 ≤ d - (N - 1 - ((N - d) / (d - 1) + 1) * (d - 1)) := by omega
  simp [hN, hdN, b1, c2, c3, bind, Except.bind, pure, Except.pure]

theorem dcSegs_windows (N d : Nat) (hd2 : 2 ≤ d) (hdN : d ≤ N) :
    ∀ w ∈ dcSegs N d, w.length = d ∧ ∀ i ∈ w, i < N := by
  obtain ⟨b1, _⟩ := nseg_bounds N d hd2 hdN
  intro w hw
  simp only [dcSegs, List.mem_map, List.mem_range] at hw
  obtain ⟨t, ht, rfl⟩ := hw
  refine ⟨by simp, ?_⟩
  intro i hi
  simp only [List.mem_map, List.mem_range] at hi
  obtain ⟨n, hn, rfl⟩ := hi
  have := Nat.mul_le_mul_right (d - 1) (Nat.succ_le_of_lt ht)
  rw [Nat.succ_mul] at this
  omega

theorem dcSegs_length (N d : Nat) (hd2 : 2 ≤ d) (hdN : d ≤ N) :
    (dcSegs N d).length = (N - 1) / (d - 1) := by
  simp [dcSegs, nseg_eq N d hd2 hdN]

theorem dcSegs_leftover (N d : Nat) (hd2 : 2 ≤ d) (hdN : d ≤ N) :
    N - 1 - (dcSegs N d).length * (d - 1) < d - 1 := by
  simpa [dcSegs] using (nseg_bounds N d hd2 hdN).2

/-- consecutive windows overlap by exactly one point: window `t+1` starts where window `t` ends. -/
theorem dcSegs_overlap (d t : Nat) (hd2 : 2 ≤ d) :
    ((List.range d).map fun n => t * (d - 1) + n).getLast? = some ((t + 1) * (d - 1)) ∧
    ((List.range d).map fun n => (t + 1) * (d - 1) + n).head? = some ((t + 1) * (d - 1)) := by
  obtain ⟨m, rfl⟩ : ∃ m, d = m + 2 := ⟨d - 2, by omega⟩
  constructor
  · rw [List.range_succ]
    simp
    ring
  · simp [List.range_succ_eq_map]

theorem dcWrap_window (N d : Nat) (hd2 : 2 ≤ d) (hdN : d ≤ N) :
    (dcWrap N d).length = d ∧ ∀ i ∈ dcWrap N d, i < N := by
  obtain ⟨b1, b2⟩ := nseg_bounds N d hd2 hdN
  unfold dcWrap
  constructor
  · simp
    omega
  · intro i hi
    simp only [List.mem_append, List.mem_map, List.mem_range] at hi
    rcases hi with ⟨a, ha, rfl⟩ | hi <;> omega

/-- `segment_k_interp` is positive: every window contributes curve points. -/
theorem dcSegK_pos (d k : Nat) (hd : 2 ≤ d) (hk : 0 < k) : 0 < dcSegK d k := by
  unfold dcSegK
  split
  · exact hk
  · exact Nat.mul_pos hk (by omega)

/-- non-vacuity: N = 10, d = 2 gives 9 windows, the maximal number (not `floor((N-d)/d)`);
    N = 10, d = 3 closed gives 4 + 1 windows, none wrapping. -/
example : (dcSegs 10 2).length = 9 := by decide
example : dcWindows 10 3 true = .ok [[0, 1, 2], [2, 3, 4], [4, 5, 6], [6, 7, 8], [8, 9, 0]] := by decide

end Manif
