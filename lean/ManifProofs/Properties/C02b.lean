/-
  Properties/C02b.lean — C02 for the 5×5 groups over ℝ: on the closed-form branches the matrix of
  `exp t` is the exponential series of `hat t` (= Mathlib's `NormedSpace.exp`), both as instances of
  `hasExpSum_blk` (C02.lean).
    * SE_2(3): rotation R(exp θ), columns Jl ρ and Jl ν (`hat t` also satisfies A⁴ = −θ²A², `hat5_quartic`, as SE3's does;
      the series used is the quintic one all the same, with `N = 0`);
    * SGal(3): rotation R(exp θ), velocity Jl ν, position Jl ρ + E(ι ν) with
      `E = ½I + ((θ−sin θ)/θ³) W + ((θ²+2cos θ−2)/(2θ⁴)) W²`, time ι; `hat t` satisfies A⁵ = −θ²A³.
-/
import ManifProofs.Properties.C02

namespace Manif
open Matrix

/-- `hom5` from Mathlib matrices and vectors; `poly_blocks` and the `exp_series` are stated with it -/
def hom5M (R : Matrix (Fin 3) (Fin 3) ℝ) (a b : Fin 3 → ℝ) (τ : ℝ) : Matrix (Fin 5) (Fin 5) ℝ :=
  !![R 0 0, R 0 1, R 0 2, a 0, b 0; R 1 0, R 1 1, R 1 2, a 1, b 1; R 2 0, R 2 1, R 2 2, a 2, b 2;
     0, 0, 0, 1, τ; 0, 0, 0, 0, 1]

theorem hom5M_eq_blk (R : Matrix (Fin 3) (Fin 3) ℝ) (a b : Fin 3 → ℝ) (τ : ℝ) :
    hom5M R a b τ = blk R (cols2 a b) !![1, τ; 0, 1] :=
  lit5_eq_blk R a b !![1, τ; 0, 1]

namespace SE23T

/-- `hat` of SE_2(3) as a Mathlib matrix -/
def hat5 (t : SE23T ℝ) : Matrix (Fin 5) (Fin 5) ℝ :=
  !![0, -t.ang.z, t.ang.y, t.lin.x, t.lin2.x; t.ang.z, 0, -t.ang.x, t.lin.y, t.lin2.y;
     -t.ang.y, t.ang.x, 0, t.lin.z, t.lin2.z; 0, 0, 0, 0, 0; 0, 0, 0, 0, 0]

theorem hat5_eq_hatRows (t : SE23T ℝ) : hat5 t = matOfRows 5 t.hatRows := by
  rw [hatRows, matOfRows_lit5]
  simp only [scalar_nat, Nat.cast_zero]
  rfl

theorem hat5_eq_blk (t : SE23T ℝ) :
    hat5 t = blk (SO3T.hat t.asSO3).toMatrix (cols2 t.lin.toVec t.lin2.toVec) 0 :=
  (hat5_eq_hatRows t).trans (hatRows_eq_blk t)

theorem hat5_quartic (t : SE23T ℝ) :
    hat5 t ^ 4 = (-(t.ang.x * t.ang.x + (t.ang.y * t.ang.y + t.ang.z * t.ang.z))) • hat5 t ^ 2 := by
  rw [hat5_eq_blk]
  exact blk_quartic _ (SO3T.hat_cube t.asSO3)

theorem poly_blocks (t : SE23T ℝ) (a b : ℝ) :
    1 + hat5 t + a • hat5 t ^ 2 + b • hat5 t ^ 3 =
      hom5M (1 + (SO3T.hat t.asSO3).toMatrix + a • (SO3T.hat t.asSO3).toMatrix ^ 2 + b • (SO3T.hat t.asSO3).toMatrix ^ 3)
        ((1 + a • (SO3T.hat t.asSO3).toMatrix + b • (SO3T.hat t.asSO3).toMatrix ^ 2).mulVec t.lin.toVec)
        ((1 + a • (SO3T.hat t.asSO3).toMatrix + b • (SO3T.hat t.asSO3).toMatrix ^ 2).mulVec t.lin2.toVec) 0 := by
  rw [hat5_eq_blk, hom5M_eq_blk, ← mul_cols2, ← Matrix.one_fin_two]
  exact blk_zero_poly (n := 2) _ _ a b

/-- **SE_2(3), generic branch**: the 5×5 matrix of `exp t` — rotation `R(exp θ)`, translation
    `Jl(θ)·ρ`, velocity `Jl(θ)·ν` — is the exponential series of `hat t`. -/
theorem exp_series (t : SE23T ℝ) (h : realEps < t.ang.x * t.ang.x + (t.ang.y * t.ang.y + t.ang.z * t.ang.z)) :
    HasExpSum (hat5 t)
      (hom5M (Quat.toRot (SO3T.expRaw t.asSO3)).toMatrix (t.asSO3.ljac.mulVec t.lin).toVec
        (t.asSO3.ljac.mulVec t.lin2).toVec 0) := by
  obtain ⟨θ, hθ, hθ2, h'⟩ := exists_norm h
  rw [hat5_eq_blk, hom5M_eq_blk, M3.toVec_mulVec, M3.toVec_mulVec, SO3T.rot_polar t.asSO3 hθ hθ2 h',
    SO3T.ljac_polar t.asSO3 hθ hθ2 h', ← mul_cols2, ← Matrix.one_fin_two]
  exact hasExpSum_blk_zero _ _ hθ.ne' (SO3T.hat_cube_polar t.asSO3 hθ2)
end SE23T

/-- `[[M, a, b], [0, 0, τ], [0, 0, 0]]` -/
def gal5 (M : Matrix (Fin 3) (Fin 3) ℝ) (a b : Fin 3 → ℝ) (τ : ℝ) : Matrix (Fin 5) (Fin 5) ℝ :=
  !![M 0 0, M 0 1, M 0 2, a 0, b 0; M 1 0, M 1 1, M 1 2, a 1, b 1; M 2 0, M 2 1, M 2 2, a 2, b 2;
     0, 0, 0, 0, τ; 0, 0, 0, 0, 0]

theorem gal5_eq_blk (M : Matrix (Fin 3) (Fin 3) ℝ) (a b : Fin 3 → ℝ) (τ : ℝ) :
    gal5 M a b τ = blk M (cols2 a b) !![0, τ; 0, 0] :=
  lit5_eq_blk M a b !![0, τ; 0, 0]

/-- the quintic relation from the cubic one of the rotation block -/
theorem gal5_quintic (W : Matrix (Fin 3) (Fin 3) ℝ) (n r : Fin 3 → ℝ) (ι θ2 : ℝ) (hW : W ^ 3 = (-θ2) • W) :
    gal5 W n r ι ^ 5 = (-θ2) • gal5 W n r ι ^ 3 := by
  rw [gal5_eq_blk]
  exact blk_quintic _ _ hW (nil2_mul ι ι)

namespace SGal3T

noncomputable def hat5 (t : SGal3T ℝ) : Matrix (Fin 5) (Fin 5) ℝ :=
  gal5 (SO3T.hat t.asSO3).toMatrix t.lin2.toVec t.lin.toVec t.t

theorem hat5_eq_hatRows (t : SGal3T ℝ) : hat5 t = matOfRows 5 t.hatRows := by
  rw [hat5, gal5_eq_blk, hatRows_eq_blk]
  rfl

/-- `fillE` in its closed-form branch, as a polynomial in `hat θ` -/
theorem fillE_generic (so3 : SO3T ℝ)
    (hE : ¬ (so3.v.x * so3.v.x + (so3.v.y * so3.v.y + so3.v.z * so3.v.z)) *
        (so3.v.x * so3.v.x + (so3.v.y * so3.v.y + so3.v.z * so3.v.z)) *
        (so3.v.x * so3.v.x + (so3.v.y * so3.v.y + so3.v.z * so3.v.z)) *
        (so3.v.x * so3.v.x + (so3.v.y * so3.v.y + so3.v.z * so3.v.z)) < realEps) :
    (fillE so3).toMatrix =
      (1 / 2 : ℝ) • 1 +
        ((Real.sqrt (so3.v.x * so3.v.x + (so3.v.y * so3.v.y + so3.v.z * so3.v.z)) -
            Real.sin (Real.sqrt (so3.v.x * so3.v.x + (so3.v.y * so3.v.y + so3.v.z * so3.v.z)))) /
          (so3.v.x * so3.v.x + (so3.v.y * so3.v.y + so3.v.z * so3.v.z)) /
            Real.sqrt (so3.v.x * so3.v.x + (so3.v.y * so3.v.y + so3.v.z * so3.v.z))) • (SO3T.hat so3).toMatrix +
        (((so3.v.x * so3.v.x + (so3.v.y * so3.v.y + so3.v.z * so3.v.z)) +
            2 * Real.cos (Real.sqrt (so3.v.x * so3.v.x + (so3.v.y * so3.v.y + so3.v.z * so3.v.z))) - 2) /
          (2 * (so3.v.x * so3.v.x + (so3.v.y * so3.v.y + so3.v.z * so3.v.z)) *
            (so3.v.x * so3.v.x + (so3.v.y * so3.v.y + so3.v.z * so3.v.z)))) • (SO3T.hat so3).toMatrix ^ 2 := by
  unfold fillE
  simp only [V3.sqNorm, sum3, scalar_lt, scalar_eps, transc_eps_real, hE, decide_false, Bool.false_eq_true, if_false,
    Scalar.sgal3EAB, M3.toMatrix_add, M3.toMatrix_smul, M3.toMatrix_mul, transc_sqrt_real, transc_sin_real,
    transc_cos_real, scalar_ofNat, scalar_rat, Nat.cast_ofNat, Nat.cast_one, smul_mul_assoc, pow_two]
  congr 2
  rw [← M3.toMatrix_one, ← M3.toMatrix_smul]
  congr 1
  ext <;> simp [M3.smul, M3.map, M3.one]

/-- `fillE` with the norm `θ` as a variable, in the form the block series has it -/
theorem fillE_polar (so3 : SO3T ℝ) {θ : ℝ} (hθ : 0 < θ)
    (hθ2 : θ ^ 2 = so3.v.x * so3.v.x + (so3.v.y * so3.v.y + so3.v.z * so3.v.z))
    (hE : ¬ θ ^ 2 * θ ^ 2 * θ ^ 2 * θ ^ 2 < realEps) :
    (fillE so3).toMatrix =
      (1 / 2 : ℝ) • 1 + ((θ - Real.sin θ) / θ ^ 3) • (SO3T.hat so3).toMatrix +
        ((Real.cos θ - 1 + θ ^ 2 / 2) / θ ^ 4) • (SO3T.hat so3).toMatrix ^ 2 := by
  have k3 : (θ - Real.sin θ) / θ ^ 2 / θ = (θ - Real.sin θ) / θ ^ 3 := by field_simp
  have k4 : (θ ^ 2 + 2 * Real.cos θ - 2) / (2 * θ ^ 2 * θ ^ 2) = (Real.cos θ - 1 + θ ^ 2 / 2) / θ ^ 4 := by
    field_simp
    ring
  rw [fillE_generic so3 (hθ2 ▸ hE), ← hθ2, Real.sqrt_sq hθ.le, k3, k4]

/-- **SGal(3), closed-form branches** (`θ² > eps` and `θ⁸ ≥ eps`): the 5×5 matrix of `exp t` —
    rotation `R(exp θ)`, velocity `Jl ν`, position `Jl ρ + E (ι ν)`, time `ι` — is the exponential
    series of `hat t`. -/
theorem exp_series (t : SGal3T ℝ) (h : realEps < t.ang.x * t.ang.x + (t.ang.y * t.ang.y + t.ang.z * t.ang.z))
    (hE : ¬ (t.ang.x * t.ang.x + (t.ang.y * t.ang.y + t.ang.z * t.ang.z)) *
        (t.ang.x * t.ang.x + (t.ang.y * t.ang.y + t.ang.z * t.ang.z)) *
        (t.ang.x * t.ang.x + (t.ang.y * t.ang.y + t.ang.z * t.ang.z)) *
        (t.ang.x * t.ang.x + (t.ang.y * t.ang.y + t.ang.z * t.ang.z)) < realEps) :
    HasExpSum (hat5 t)
      (hom5M (Quat.toRot (SO3T.expRaw t.asSO3)).toMatrix (t.asSO3.ljac.mulVec t.lin2).toVec
        ((t.asSO3.ljac.mulVec t.lin).add ((fillE t.asSO3).mulVec (t.lin2.smul t.t))).toVec t.t) := by
  obtain ⟨θ, hθ, hθ2, h'⟩ := exists_norm h
  rw [← hθ2] at hE
  have key := hasExpSum_blk (SO3T.hat t.asSO3).toMatrix (cols2 t.lin2.toVec t.lin.toVec) !![0, t.t; 0, 0] hθ.ne'
    (SO3T.hat_cube_polar t.asSO3 hθ2) (nil2_mul t.t t.t)
  -- columns: `Jl [ν ρ] + E [ν ρ] [0 ι; 0 0] = [Jl ν, Jl ρ + ι E ν]`
  rw [mul_cols2, mul_cols2, cols2_mul, cols2_add, one_add_nil2] at key
  rw [hat5, gal5_eq_blk, hom5M_eq_blk, V3.toVec_add, M3.toVec_mulVec, M3.toVec_mulVec, M3.toVec_mulVec, V3.toVec_smul,
    SO3T.rot_polar t.asSO3 hθ hθ2 h', SO3T.ljac_polar t.asSO3 hθ hθ2 h', fillE_polar t.asSO3 hθ hθ2 hE,
    Matrix.mulVec_smul]
  simpa only [of_apply, cons_val', cons_val_zero, cons_val_one, cons_val_fin_one, zero_smul, add_zero] using key
end SGal3T

theorem SE23T.exp_eq_matrix_exp (t : SE23T ℝ) (h : realEps < t.ang.x * t.ang.x + (t.ang.y * t.ang.y + t.ang.z * t.ang.z)) :
    NormedSpace.exp (SE23T.hat5 t) =
      hom5M (Quat.toRot (SO3T.expRaw t.asSO3)).toMatrix (t.asSO3.ljac.mulVec t.lin).toVec
        (t.asSO3.ljac.mulVec t.lin2).toVec 0 :=
  (SE23T.exp_series t h).exp_eq

theorem SGal3T.exp_eq_matrix_exp (t : SGal3T ℝ) (h : realEps < t.ang.x * t.ang.x + (t.ang.y * t.ang.y + t.ang.z * t.ang.z))
    (hE : ¬ (t.ang.x * t.ang.x + (t.ang.y * t.ang.y + t.ang.z * t.ang.z)) *
        (t.ang.x * t.ang.x + (t.ang.y * t.ang.y + t.ang.z * t.ang.z)) *
        (t.ang.x * t.ang.x + (t.ang.y * t.ang.y + t.ang.z * t.ang.z)) *
        (t.ang.x * t.ang.x + (t.ang.y * t.ang.y + t.ang.z * t.ang.z)) < realEps) :
    NormedSpace.exp (SGal3T.hat5 t) =
      hom5M (Quat.toRot (SO3T.expRaw t.asSO3)).toMatrix (t.asSO3.ljac.mulVec t.lin2).toVec
        ((t.asSO3.ljac.mulVec t.lin).add ((SGal3T.fillE t.asSO3).mulVec (t.lin2.smul t.t))).toVec t.t :=
  (SGal3T.exp_series t h hE).exp_eq

end Manif
