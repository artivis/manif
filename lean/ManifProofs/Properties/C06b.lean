/-
  C06 (over ℝ) — SO3: the closed-form inverse left Jacobian is the inverse of the left Jacobian, and
  `Adj(exp t) = Jl(t) Jr(t)⁻¹`, on the generic branch (θ² > eps) away from the pole of the inverse
  (sin(θ/2) ≠ 0, i.e. θ ≠ 2π).  Proved at the matrix level: everything is a quadratic polynomial in W = hat θ,
  W³ = −θ²W (`quad_mul_quad_cube`), and the two resulting scalar identities reduce to sin² + cos² = 1.
  SE3 and SE_2(3) follow blockwise: the `Q` blocks cancel for every translation part (`mul_add_neg_mul_cancel`).
-/
import ManifProofs.Properties.C02
import Mathlib.Tactic.NoncommRing
import ManifProofs.Properties.C06

namespace Manif
open Matrix

theorem quad_mul_quad {n : Type} [Fintype n] [DecidableEq n] (W : Matrix n n ℝ) (p q a b : ℝ) :
    (1 + p • W + q • W ^ 2) * (1 + a • W + b • W ^ 2) =
      1 + (p + a) • W + (q + p * a + b) • W ^ 2 + (p * b + q * a) • W ^ 3 + (q * b) • W ^ 4 := by
  simp only [pow_succ, pow_zero, one_mul]
  noncomm_ring
  simp only [smul_add, smul_smul]
  module

/-- product of two quadratics in a matrix with `W³ = −s W` -/
theorem quad_mul_quad_cube {n : Type} [Fintype n] [DecidableEq n] (W : Matrix n n ℝ) (s p q a b : ℝ)
    (h : W ^ 3 = (-s) • W) :
    (1 + p • W + q • W ^ 2) * (1 + a • W + b • W ^ 2) =
      1 + (p + a - s * (p * b + q * a)) • W + (q + p * a + b - s * (q * b)) • W ^ 2 := by
  have h4 : W ^ 4 = (-s) • W ^ 2 := by rw [pow_succ, h, smul_mul_assoc, ← pow_two]
  rw [quad_mul_quad, h, h4]
  module

namespace SO3T

theorem ljacinv_polar (t : SO3T ℝ) {θ : ℝ} (hθ : 0 < θ) (hθ2 : θ ^ 2 = t.v.x * t.v.x + (t.v.y * t.v.y + t.v.z * t.v.z))
    (h : realEps < θ ^ 2) :
    (ljacinv t).toMatrix =
      1 + (-(1 / 2 : ℝ)) • (hat t).toMatrix +
        (1 / θ ^ 2 - Real.cos (θ / 2) / (2 * θ * Real.sin (θ / 2))) • (hat t).toMatrix ^ 2 := by
  have hnle : ¬ t.v.x * t.v.x + (t.v.y * t.v.y + t.v.z * t.v.z) ≤ realEps := not_le.mpr (hθ2 ▸ h)
  unfold ljacinv
  simp only [V3.sqNorm, sum3, scalar_le, scalar_eps, transc_eps_real, hnle, decide_false, Bool.false_eq_true, if_false,
    M3.toMatrix_add, M3.toMatrix_sub, M3.toMatrix_one, M3.toMatrix_smul, M3.toMatrix_mul, scalar_sqrt, transc_sqrt_real,
    scalar_sin, transc_sin_real, scalar_cos, transc_cos_real, scalar_nat, scalar_rat, Nat.cast_ofNat, Nat.cast_one,
    smul_mul_assoc]
  rw [← hθ2, Real.sqrt_sq hθ.le, pow_two ((hat t).toMatrix), sub_eq_add_neg, neg_smul]

/-- **SO3: `Jl⁻¹ · Jl = I`** on the generic branch (every `θ² > eps` with `sin(θ/2) ≠ 0`, i.e. away
    from the pole `θ = 2π` of the inverse). -/
theorem ljacinv_mul_ljac (t : SO3T ℝ) (h : realEps < t.v.x * t.v.x + (t.v.y * t.v.y + t.v.z * t.v.z))
    (hs : Real.sin (Real.sqrt (t.v.x * t.v.x + (t.v.y * t.v.y + t.v.z * t.v.z)) / 2) ≠ 0) :
    (ljacinv t).toMatrix * (ljac t).toMatrix = 1 := by
  obtain ⟨hθpos, hθ2⟩ := sqrt_pos_sq h
  rw [ljacinv_polar t hθpos hθ2 (hθ2.symm ▸ h), ljac_generic t h, quad_mul_quad_cube _ _ _ _ _ _ (hat_cube t)]
  generalize Real.sqrt (t.v.x * t.v.x + (t.v.y * t.v.y + t.v.z * t.v.z)) = θ at hθpos hθ2 hs ⊢
  rw [← hθ2]
  have hsc := Real.sin_sq_add_cos_sq (θ / 2)
  rw [sin_eq_half θ, cos_eq_half θ]
  generalize Real.sin (θ / 2) = s at hs hsc ⊢
  generalize Real.cos (θ / 2) = c at hsc ⊢
  -- the coefficients of `W` and of `W²` vanish
  have c1 : -(1 / 2 : ℝ) + (1 - (1 - 2 * s ^ 2)) / θ ^ 2 -
      θ ^ 2 * (-(1 / 2 : ℝ) * ((θ - 2 * s * c) / θ ^ 3) +
        (1 / θ ^ 2 - c / (2 * θ * s)) * ((1 - (1 - 2 * s ^ 2)) / θ ^ 2)) = 0 := by
    field_simp
    ring1
  have c2 : (1 / θ ^ 2 - c / (2 * θ * s)) + -(1 / 2 : ℝ) * ((1 - (1 - 2 * s ^ 2)) / θ ^ 2) +
      (θ - 2 * s * c) / θ ^ 3 - θ ^ 2 * ((1 / θ ^ 2 - c / (2 * θ * s)) * ((θ - 2 * s * c) / θ ^ 3)) = 0 := by
    field_simp
    linear_combination (-2 * θ * s) * hsc
  rw [c1, c2, zero_smul, zero_smul, add_zero, add_zero]

/-- `Jr · Jr⁻¹ = I` (the right Jacobians are the transposes) -/
theorem rjac_mul_rjacinv (t : SO3T ℝ) (h : realEps < t.v.x * t.v.x + (t.v.y * t.v.y + t.v.z * t.v.z))
    (hs : Real.sin (Real.sqrt (t.v.x * t.v.x + (t.v.y * t.v.y + t.v.z * t.v.z)) / 2) ≠ 0) :
    (rjac t).toMatrix * (rjacinv t).toMatrix = 1 := by
  have := congrArg Matrix.transpose (ljacinv_mul_ljac t h hs)
  simpa [rjac, rjacinv, Matrix.transpose_mul] using this

theorem hat_transpose (t : SO3T ℝ) : (hat t).toMatrixᵀ = -(hat t).toMatrix := by
  rw [← M3.toMatrix_transpose, ← M3.toMatrix_neg, hat, ← M3.skew_neg_eq_transpose, M3.skew_neg]

/-- `R(exp t) · Jr(t) = Jl(t)` on the closed-form branch (any angle). -/
theorem rot_mul_rjac (t : SO3T ℝ) (h : realEps < t.v.x * t.v.x + (t.v.y * t.v.y + t.v.z * t.v.z)) :
    (Quat.toRot (expRaw t)).toMatrix * (rjac t).toMatrix = (ljac t).toMatrix := by
  obtain ⟨hθpos, hθ2⟩ := sqrt_pos_sq h
  have hr : (rjac t).toMatrix = ((ljac t).toMatrix)ᵀ := M3.toMatrix_transpose _
  rw [hr, rot_expRaw t h, ljac_generic t h]
  simp only [Matrix.transpose_add, Matrix.transpose_one, Matrix.transpose_smul, Matrix.transpose_pow,
    hat_transpose t, neg_sq, smul_neg, ← neg_smul]
  rw [quad_mul_quad_cube _ _ _ _ _ _ (hat_cube t)]
  generalize Real.sqrt (t.v.x * t.v.x + (t.v.y * t.v.y + t.v.z * t.v.z)) = θ at hθpos hθ2 ⊢
  rw [← hθ2]
  have hsc := Real.sin_sq_add_cos_sq θ
  generalize Real.sin θ = s at hsc ⊢
  generalize Real.cos θ = c at hsc ⊢
  have hθ : θ ≠ 0 := hθpos.ne'
  have c1 : s / θ + -((1 - c) / θ ^ 2) - θ ^ 2 * (s / θ * ((θ - s) / θ ^ 3) + (1 - c) / θ ^ 2 * -((1 - c) / θ ^ 2)) =
      (1 - c) / θ ^ 2 := by
    field_simp
    linear_combination hsc
  have c2 : (1 - c) / θ ^ 2 + s / θ * -((1 - c) / θ ^ 2) + (θ - s) / θ ^ 3 -
      θ ^ 2 * ((1 - c) / θ ^ 2 * ((θ - s) / θ ^ 3)) = (θ - s) / θ ^ 3 := by
    field_simp
    ring1
  rw [c1, c2]

/-- **`Adj(exp t) = Jl(t) · Jr(t)⁻¹`** for SO3 (`Adj` of a rotation is its matrix), closed-form branch,
    away from the poles of `Jr⁻¹` (`sin(θ/2) ≠ 0`). -/
theorem adj_exp (t : SO3T ℝ) (h : realEps < t.v.x * t.v.x + (t.v.y * t.v.y + t.v.z * t.v.z))
    (hs : Real.sin (Real.sqrt (t.v.x * t.v.x + (t.v.y * t.v.y + t.v.z * t.v.z)) / 2) ≠ 0) :
    (Quat.toRot (expRaw t)).toMatrix = (ljac t).toMatrix * (rjacinv t).toMatrix := by
  rw [← rot_mul_rjac t h, Matrix.mul_assoc, rjac_mul_rjacinv t h hs, mul_one]

end SO3T

theorem mul_add_neg_mul_cancel {Ji J : Matrix (Fin 3) (Fin 3) ℝ} (h : Ji * J = 1) (Q : Matrix (Fin 3) (Fin 3) ℝ) :
    Ji * Q + -Ji * Q * Ji * J = 0 := by
  rw [Matrix.mul_assoc (-Ji * Q) Ji J, h, mul_one, neg_mul, add_neg_cancel]

/-- block-triangular inverse: if `Ji · J = 1` then `[Ji, -Ji Q Ji; 0, Ji] · [J, Q; 0, J] = 1` — any `Q`. -/
theorem block_tri_inv (Ji J Q : Matrix (Fin 3) (Fin 3) ℝ) (h : Ji * J = 1) :
    Matrix.fromBlocks Ji (-Ji * Q * Ji) 0 Ji * Matrix.fromBlocks J Q 0 J = 1 := by
  rw [Matrix.fromBlocks_multiply]
  simp only [zero_mul, add_zero, mul_zero, zero_add, h]
  rw [mul_add_neg_mul_cancel h, Matrix.fromBlocks_one]

namespace SE3T

/-- **SE3: `Jl⁻¹ · Jl = I`** (6×6), from the SO3 identity — for every translation part. -/
theorem ljacinv_mul_ljac (t : SE3T ℝ) (h : realEps < t.ang.x * t.ang.x + (t.ang.y * t.ang.y + t.ang.z * t.ang.z))
    (hs : Real.sin (Real.sqrt (t.ang.x * t.ang.x + (t.ang.y * t.ang.y + t.ang.z * t.ang.z)) / 2) ≠ 0) :
    (ljacinv t).toMatrix * (ljac t).toMatrix = 1 := by
  have h3 := SO3T.ljacinv_mul_ljac t.asSO3 h hs
  simp only [ljacinv, ljac, M6.toMatrix, M3.toMatrix_mul, M3.toMatrix_neg, M3.toMatrix_zero]
  exact block_tri_inv _ _ _ h3

/-- **SE3: `Jr⁻¹ · Jr = I`** (6×6), closed-form branch, away from the pole of the inverse. -/
theorem rjacinv_mul_rjac (t : SE3T ℝ) (h : realEps < t.ang.x * t.ang.x + (t.ang.y * t.ang.y + t.ang.z * t.ang.z))
    (hs : Real.sin (Real.sqrt (t.ang.x * t.ang.x + (t.ang.y * t.ang.y + t.ang.z * t.ang.z)) / 2) ≠ 0) :
    (rjacinv t).toMatrix * (rjac t).toMatrix = 1 := by
  rw [rjacinv_eq_ljacinv_neg, rjac_eq_ljac_neg]
  have e : (t.ang.neg.x * t.ang.neg.x + (t.ang.neg.y * t.ang.neg.y + t.ang.neg.z * t.ang.neg.z)) =
      t.ang.x * t.ang.x + (t.ang.y * t.ang.y + t.ang.z * t.ang.z) := V3.sqNorm_neg t.ang
  exact ljacinv_mul_ljac ⟨t.lin.neg, t.ang.neg⟩ (by simp only; rw [e]; exact h) (by simp only; rw [e]; exact hs)

end SE3T

namespace SE23T

/-- **SE_2(3): `Jl⁻¹ · Jl = I`** (9×9, the model's block product), closed-form branch, away from the pole of the
    inverse: both `Q` blocks cancel as in SE3. -/
theorem ljacinv_mul_ljac (t : SE23T ℝ) (h : realEps < t.ang.x * t.ang.x + (t.ang.y * t.ang.y + t.ang.z * t.ang.z))
    (hs : Real.sin (Real.sqrt (t.ang.x * t.ang.x + (t.ang.y * t.ang.y + t.ang.z * t.ang.z)) / 2) ≠ 0) :
    (ljacinv t).mul (ljac t) = M9.one := by
  have h3 := SO3T.ljacinv_mul_ljac t.asSO3 h hs
  set Ji := SO3T.ljacinv t.asSO3 with hJi
  set J := SO3T.ljac t.asSO3 with hJ
  unfold ljacinv ljac M9.mul M9.one
  simp only [← hJi, ← hJ]
  apply M9.ext <;> apply M3.toMatrix_injective <;>
    simp only [M3.toMatrix_add, M3.toMatrix_mul, M3.toMatrix_neg, M3.toMatrix_zero, M3.toMatrix_one, mul_zero, zero_mul, add_zero, zero_add, h3]
  -- seven blocks are closed by `Ji J = 1`; left are the two `Q` blocks, `Ji Q + (−Ji Q Ji) J = 0` and its mirror
  · exact mul_add_neg_mul_cancel h3 _
  · rw [add_comm]
    exact mul_add_neg_mul_cancel h3 _

/-- **SE_2(3): `Jr⁻¹ · Jr = I`** (9×9). -/
theorem rjacinv_mul_rjac (t : SE23T ℝ) (h : realEps < t.ang.x * t.ang.x + (t.ang.y * t.ang.y + t.ang.z * t.ang.z))
    (hs : Real.sin (Real.sqrt (t.ang.x * t.ang.x + (t.ang.y * t.ang.y + t.ang.z * t.ang.z)) / 2) ≠ 0) :
    (rjacinv t).mul (rjac t) = M9.one := by
  rw [rjacinv_eq_ljacinv_neg, rjac_eq_ljac_neg]
  have e : ((neg t).ang.x * (neg t).ang.x + ((neg t).ang.y * (neg t).ang.y + (neg t).ang.z * (neg t).ang.z)) =
      t.ang.x * t.ang.x + (t.ang.y * t.ang.y + t.ang.z * t.ang.z) := V3.sqNorm_neg t.ang
  exact ljacinv_mul_ljac (neg t) (by rw [e]; exact h) (by rw [e]; exact hs)

end SE23T

end Manif
