/-
  Properties/C01b.lean — C01 for the two 5×5 groups SE_2(3) and SGal(3), over every ordered field with `LawfulTransc`:
  the matrix of `X·Y` is the product of the matrices, `inverse` is a two-sided inverse, construction of the results
  never raises on valid operands (either quaternion hemisphere), and `act` is the matrix action.
  `hom5 R a b τ = [R a b; 0 1 τ; 0 0 1]`.  Built as C01 is: `mul`, `inv`, `one` with their cancellation laws (plain
  algebra; the time coupling `p ↦ R p + v t + p'` of SGal(3) cancels in each), `okGroup`, `toMat` multiplicative, and the
  statements about the calls from `Lemmas/OkGroup.lean`.
-/
import ManifProofs.Properties.C01
namespace Manif
open Matrix
variable {K : Type} [Field K] [LinearOrder K] [IsStrictOrderedRing K] [Transc K] [LawfulTransc K]

namespace SGal3
def Valid (X : SGal3 K) : Prop := X.q.sqn = 1
def toMat (X : SGal3 K) : Matrix (Fin 5) (Fin 5) K := matOfRows 5 X.transformRows

section coordinates
omit [IsStrictOrderedRing K] [LawfulTransc K]

def mul (X Y : SGal3 K) : SGal3 K :=
  ⟨((X.q.toRot.mulVec Y.p).add (X.v.smul Y.t)).add X.p, X.q.mul Y.q, (X.q.toRot.mulVec Y.v).add X.v, X.t + Y.t⟩
def inv (X : SGal3 K) : SGal3 K :=
  ⟨(X.q.conj.toRot.mulVec (X.p.sub (X.v.smul X.t))).neg, X.q.conj, (X.q.conj.toRot.mulVec X.v).neg, -X.t⟩
def one : SGal3 K := ⟨⟨0, 0, 0⟩, ⟨0, 0, 0, 1⟩, ⟨0, 0, 0⟩, 0⟩

/- In each law the rotation is first pushed through `add`, `neg`, `sub`, `smul` and cancelled against its conjugate;
   quaternion, velocity and time are then done, and the position is an identity of the vector space `V3`. -/

protected theorem mul_inv_cancel_left {X : SGal3 K} (hX : Valid X) (Y : SGal3 K) : mul X (mul (inv X) Y) = Y := by
  obtain ⟨p, q, v, t⟩ := Y
  simp only [mul, inv, Quat.mul_conj_cancel_left _ _ hX, V3.neg_add_cancel_right, M3.mulVec_add, M3.mulVec_neg,
    M3.mulVec_smul, Quat.toRot_mulVec_conj _ hX, mk.injEq, true_and]
  refine ⟨?_, by ring⟩
  ext
  · simp only [V3.add, V3.neg, V3.smul, V3.sub]; ring
  · simp only [V3.add, V3.neg, V3.smul, V3.sub]; ring
  · simp only [V3.add, V3.neg, V3.smul, V3.sub]; ring

protected theorem inv_mul_cancel_left {X : SGal3 K} (hX : Valid X) (Y : SGal3 K) : mul (inv X) (mul X Y) = Y := by
  obtain ⟨p, q, v, t⟩ := Y
  simp only [mul, inv, Quat.conj_mul_cancel_left _ _ hX, V3.add_neg_cancel_right, M3.mulVec_add, M3.mulVec_sub,
    M3.mulVec_smul, Quat.conj_toRot_mulVec _ hX, mk.injEq, true_and]
  refine ⟨?_, by ring⟩
  ext
  · simp only [V3.add, V3.neg, V3.smul, V3.sub]; ring
  · simp only [V3.add, V3.neg, V3.smul, V3.sub]; ring
  · simp only [V3.add, V3.neg, V3.smul, V3.sub]; ring

protected theorem mul_one (X : SGal3 K) : mul X one = X := by
  obtain ⟨p, q, v, t⟩ := X
  simp only [mul, one, Quat.mul_one, M3.mulVec_zero, V3.zero_add, add_zero, mk.injEq, and_true]
  ext
  · simp only [V3.add, V3.smul]; ring
  · simp only [V3.add, V3.smul]; ring
  · simp only [V3.add, V3.smul]; ring

theorem toMat_eq (X : SGal3 K) : toMat X = hom5 X.rotation X.v X.p X.t := by
  rw [toMat, transformRows, matOfRows_lit5]
  simp only [scalar_nat, Nat.cast_zero, Nat.cast_one]
  rfl

theorem toMat_one : toMat (one : SGal3 K) = 1 := by
  rw [toMat_eq, one, rotation, SO3.rotation, asSO3, Quat.toRot_one, hom5_one]
end coordinates

theorem make_ok' (dbg : Bool) (p v : V3 K) (t : K) {q : Quat K} (h : q.sqn = 1) :
    make dbg p q v t = .ok ⟨p, q, v, t⟩ := by
  simp [make, Quat.norm, Quat.sqNorm_eq, checkUnit_sqrt_one dbg h]

theorem compose_okK (dbg : Bool) {X Y : SGal3 K} (hX : Valid X) (hY : Valid Y) :
    compose dbg X Y = .ok ⟨((X.rotation.mulVec Y.p).add (X.v.smul Y.t)).add X.p, X.q.mul Y.q,
      (X.rotation.mulVec Y.v).add X.v, X.t + Y.t⟩ := by
  have h1 : SO3.compose dbg X.asSO3 Y.asSO3 = .ok ⟨X.q.mul Y.q⟩ := SO3.compose_okK dbg hX hY
  simp only [compose, h1, except_ok_bind]
  exact make_ok' dbg _ _ _ (Quat.mul_unit _ _ hX hY)

theorem inverse_okK (dbg : Bool) {X : SGal3 K} (hX : Valid X) :
    inverse dbg X = .ok ⟨((SO3.mk X.q.conj).act (X.p.sub (X.v.smul X.t))).neg, X.q.conj,
      ((SO3.mk X.q.conj).act X.v).neg, -X.t⟩ := by
  have h1 : SO3.inverse dbg X.asSO3 = .ok ⟨X.q.conj⟩ := SO3.inverse_okK dbg hX
  simp only [inverse, h1, except_ok_bind]
  exact make_ok' dbg _ _ _ (Quat.conj_unit X.q hX)

theorem okGroup : (sgal3Ops (K := K)).OkGroup Valid mul inv one where
  compose_ok dbg _ _ hX hY := compose_okK dbg hX hY
  inverse_ok dbg _ hX := inverse_okK dbg hX
  valid_mul hX hY := Quat.mul_unit _ _ hX hY
  valid_inv hX := Quat.conj_unit _ hX
  valid_one := Quat.sqn_one
  mul_inv_cancel_left := SGal3.mul_inv_cancel_left
  inv_mul_cancel_left := SGal3.inv_mul_cancel_left
  mul_one := SGal3.mul_one

theorem exp_zero (dbg : Bool) :
    SGal3T.exp dbg (⟨⟨0, 0, 0⟩, ⟨0, 0, 0⟩, ⟨0, 0, 0⟩, 0⟩ : SGal3T K) = .ok ⟨⟨0, 0, 0⟩, ⟨0, 0, 0, 1⟩, ⟨0, 0, 0⟩, 0⟩ := by
  have hs : (⟨0, 0, 0⟩ : V3 K).smul 0 = ⟨0, 0, 0⟩ := V3.ext (mul_zero _) (mul_zero _) (mul_zero _)
  simp only [SGal3T.exp, SGal3T.asSO3, SO3.exp_zero, SO3.one, bind, Except.bind, hs, M3.mulVec_zero, V3.zero_add]
  exact make_ok' dbg _ _ _ Quat.sqn_one

theorem toMat_mul {X Y : SGal3 K} (hX : Valid X) (hY : Valid Y) : toMat (mul X Y) = toMat X * toMat Y := by
  rw [toMat_eq, toMat_eq, toMat_eq, hom5_mul]
  simp only [mul, rotation, SO3.rotation, asSO3, Quat.toRot_mul _ _ hX hY]

/-- **C01/SGal3 compose**: the matrix of `X·Y` is the product of the matrices. -/
theorem toMat_compose (dbg : Bool) {X Y : SGal3 K} (hX : Valid X) (hY : Valid Y) :
    ∃ Z, compose dbg X Y = .ok Z ∧ Valid Z ∧ toMat Z = toMat X * toMat Y :=
  okGroup.map_compose toMat toMat_mul dbg hX hY

/-- **C01/SGal3 inverse**: two-sided inverse. -/
theorem toMat_inverse (dbg : Bool) {X : SGal3 K} (hX : Valid X) :
    ∃ Z, inverse dbg X = .ok Z ∧ Valid Z ∧ toMat Z * toMat X = 1 ∧ toMat X * toMat Z = 1 :=
  okGroup.map_inverse toMat toMat_mul toMat_one dbg hX

/-- **C01/SGal3 act**: `X.act(p)` is the spatial part of the matrix acting on the event `(p, 0, 1)`
    (a point at time 0), whose time becomes `X.t`. -/
theorem act_eq (X : SGal3 K) (p : V3 K) :
    ![(act X p).x, (act X p).y, (act X p).z, X.t, 1] = (toMat X).mulVec ![p.x, p.y, p.z, 0, 1] := by
  rw [toMat_eq]
  ext i
  fin_cases i <;>
    simp [hom5, Matrix.mulVec, dotProduct, Fin.sum_univ_five, act, M3.mulVec, V3.add, sum3] <;> ring

example : Valid (⟨⟨1000000, -2, 1/1000⟩, ⟨2/5, 2/5, 4/5, -1/5⟩, ⟨3, 4, 5⟩, 7⟩ : SGal3 ℚ) := by
  norm_num [Valid, Quat.sqn]
end SGal3

namespace SE23
def Valid (X : SE23 K) : Prop := X.q.sqn = 1
def toMat (X : SE23 K) : Matrix (Fin 5) (Fin 5) K := matOfRows 5 X.transformRows

section coordinates
omit [IsStrictOrderedRing K] [LawfulTransc K]

def mul (X Y : SE23 K) : SE23 K := ⟨(X.q.toRot.mulVec Y.t).add X.t, X.q.mul Y.q, (X.q.toRot.mulVec Y.v).add X.v⟩
def inv (X : SE23 K) : SE23 K := ⟨(X.q.conj.toRot.mulVec X.t).neg, X.q.conj, (X.q.conj.toRot.mulVec X.v).neg⟩
def one : SE23 K := ⟨⟨0, 0, 0⟩, ⟨0, 0, 0, 1⟩, ⟨0, 0, 0⟩⟩

protected theorem mul_inv_cancel_left {X : SE23 K} (hX : Valid X) (Y : SE23 K) : mul X (mul (inv X) Y) = Y := by
  simp only [mul, inv, Quat.mul_conj_cancel_left _ _ hX, M3.mulVec_add, M3.mulVec_neg,
    Quat.toRot_mulVec_conj _ hX, V3.neg_add_cancel_right]

protected theorem inv_mul_cancel_left {X : SE23 K} (hX : Valid X) (Y : SE23 K) : mul (inv X) (mul X Y) = Y := by
  simp only [mul, inv, Quat.conj_mul_cancel_left _ _ hX, M3.mulVec_add, Quat.conj_toRot_mulVec _ hX,
    V3.add_neg_cancel_right]

protected theorem mul_one (X : SE23 K) : mul X one = X := by
  simp only [mul, one, Quat.mul_one, M3.mulVec_zero, V3.zero_add]

theorem toMat_eq (X : SE23 K) : toMat X = hom5 X.rotation X.t X.v 0 := by
  rw [toMat, transformRows, matOfRows_lit5]
  simp only [scalar_nat, Nat.cast_zero, Nat.cast_one]
  rfl

theorem toMat_one : toMat (one : SE23 K) = 1 := by
  rw [toMat_eq, one, rotation, SO3.rotation, asSO3, Quat.toRot_one, hom5_one]
end coordinates

theorem make_ok' (dbg : Bool) (t v : V3 K) {q : Quat K} (h : q.sqn = 1) :
    make dbg t q v = .ok ⟨t, q, v⟩ := by
  simp [make, Quat.norm, Quat.sqNorm_eq, checkUnit_sqrt_one dbg h]

theorem compose_okK (dbg : Bool) {X Y : SE23 K} (hX : Valid X) (hY : Valid Y) :
    compose dbg X Y = .ok ⟨(X.rotation.mulVec Y.t).add X.t, X.q.mul Y.q, (X.rotation.mulVec Y.v).add X.v⟩ := by
  have h1 : SO3.compose dbg X.asSO3 Y.asSO3 = .ok ⟨X.q.mul Y.q⟩ := SO3.compose_okK dbg hX hY
  simp only [compose, h1, except_ok_bind]
  exact make_ok' dbg _ _ (Quat.mul_unit _ _ hX hY)

theorem inverse_okK (dbg : Bool) {X : SE23 K} (hX : Valid X) :
    inverse dbg X = .ok ⟨((SO3.mk X.q.conj).act X.t).neg, X.q.conj, ((SO3.mk X.q.conj).act X.v).neg⟩ := by
  have h1 : SO3.inverse dbg X.asSO3 = .ok ⟨X.q.conj⟩ := SO3.inverse_okK dbg hX
  simp only [inverse, h1, except_ok_bind]
  exact make_ok' dbg _ _ (Quat.conj_unit X.q hX)

theorem okGroup : (se23Ops (K := K)).OkGroup Valid mul inv one where
  compose_ok dbg _ _ hX hY := compose_okK dbg hX hY
  inverse_ok dbg _ hX := inverse_okK dbg hX
  valid_mul hX hY := Quat.mul_unit _ _ hX hY
  valid_inv hX := Quat.conj_unit _ hX
  valid_one := Quat.sqn_one
  mul_inv_cancel_left := SE23.mul_inv_cancel_left
  inv_mul_cancel_left := SE23.inv_mul_cancel_left
  mul_one := SE23.mul_one

theorem exp_zero (dbg : Bool) :
    SE23T.exp dbg (⟨⟨0, 0, 0⟩, ⟨0, 0, 0⟩, ⟨0, 0, 0⟩⟩ : SE23T K) = .ok ⟨⟨0, 0, 0⟩, ⟨0, 0, 0, 1⟩, ⟨0, 0, 0⟩⟩ := by
  simp only [SE23T.exp, SE23T.asSO3, SO3.exp_zero, SO3.one, bind, Except.bind, M3.mulVec_zero]
  exact make_ok' dbg _ _ Quat.sqn_one

theorem toMat_mul {X Y : SE23 K} (hX : Valid X) (hY : Valid Y) : toMat (mul X Y) = toMat X * toMat Y := by
  rw [toMat_eq, toMat_eq, toMat_eq, hom5_mul, add_zero]
  simp only [mul, rotation, SO3.rotation, asSO3, Quat.toRot_mul _ _ hX hY]
  congr 2
  -- `τ = 0`: the term `t·0` of the general product drops out
  ext <;> simp only [V3.add, V3.smul, zero_mul, add_zero]

/-- **C01/SE23 compose**: the matrix of `X·Y` is the product of the matrices. -/
theorem toMat_compose (dbg : Bool) {X Y : SE23 K} (hX : Valid X) (hY : Valid Y) :
    ∃ Z, compose dbg X Y = .ok Z ∧ Valid Z ∧ toMat Z = toMat X * toMat Y :=
  okGroup.map_compose toMat toMat_mul dbg hX hY

/-- **C01/SE23 inverse**: two-sided inverse. -/
theorem toMat_inverse (dbg : Bool) {X : SE23 K} (hX : Valid X) :
    ∃ Z, inverse dbg X = .ok Z ∧ Valid Z ∧ toMat Z * toMat X = 1 ∧ toMat X * toMat Z = 1 :=
  okGroup.map_inverse toMat toMat_mul toMat_one dbg hX

/-- **C01/SE23 act**: `X.act(p)` is the matrix acting on the point `(p, 1, 0)`. -/
theorem act_eq (X : SE23 K) (p : V3 K) :
    ![(act X p).x, (act X p).y, (act X p).z, 1, 0] = (toMat X).mulVec ![p.x, p.y, p.z, 1, 0] := by
  rw [toMat_eq]
  ext i
  fin_cases i <;>
    simp [hom5, Matrix.mulVec, dotProduct, Fin.sum_univ_five, act, M3.mulVec, V3.add, sum3] <;> ring

example : Valid (⟨⟨1000000, -2, 1/1000⟩, ⟨2/5, 2/5, 4/5, -1/5⟩, ⟨3, 4, 5⟩⟩ : SE23 ℚ) := by
  norm_num [Valid, Quat.sqn]
end SE23
end Manif
