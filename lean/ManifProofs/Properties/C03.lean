/-
  C03 — log is the principal inverse of exp on every valid element.
  Algebraic part (every ordered field with lawful sin/cos/atan2): `exp (log X) = X` on the
  coefficients for SO2 and SE2 (both branches of the small-angle switch; for SE2 under `hAB`, the `(A, B)` pair of `log`
  does not vanish, which `coefAB_small_pos` derives in the Taylor branch and which stays a hypothesis in the other).
-/
import ManifProofs.Properties.C01

namespace Manif
open Matrix

variable {K : Type} [Field K] [LinearOrder K] [IsStrictOrderedRing K] [Transc K] [LawfulTransc K]

namespace SO2
/-- **SO2: `exp(log X) = X`** exactly, for every valid X (either sign of the real part). -/
theorem exp_log (dbg : Bool) {X : SO2 K} (hX : Valid X) : SO2T.exp dbg (log X) = .ok X := by
  have h := hX
  unfold Valid at h
  have := make_ok dbg hX
  simpa [SO2T.exp, log, angle, LawfulTransc.cos_atan2 _ _ h, LawfulTransc.sin_atan2 _ _ h] using this
end SO2

namespace SE2

/-- in the Taylor branch the `(A, B)` pair does not degenerate: `θ² < 1` there, so `A = 1 − θ²/6 > 0`. -/
theorem coefAB_small_pos {θ c s : K} (h : θ * θ * (θ * θ) < Transc.eps) :
    0 < (SE2T.coefAB θ c s).1 * (SE2T.coefAB θ c s).1 + (SE2T.coefAB θ c s).2 * (SE2T.coefAB θ c s).2 := by
  have h1 : θ * θ < 1 := by
    by_contra hh
    have h2 : 1 ≤ θ * θ := not_lt.mp hh
    exact absurd (h.trans LawfulTransc.eps_lt_one) (not_lt.mpr (one_le_mul_of_one_le_of_one_le h2 h2))
  have hA : (SE2T.coefAB θ c s).1 = 1 - 1 / 6 * (θ * θ) := by
    simp only [SE2T.coefAB, scalar_lt, scalar_eps, h, decide_true, if_true, scalar_nat, scalar_rat, Nat.cast_one,
      Nat.cast_ofNat]
  have hApos : 0 < (SE2T.coefAB θ c s).1 := by rw [hA]; linarith
  exact add_pos_of_pos_of_nonneg (mul_pos hApos hApos) (mul_self_nonneg _)

omit [LinearOrder K] [IsStrictOrderedRing K] [Transc K] [LawfulTransc K] in
/-- `V (V⁻¹ (x, y)) = (x, y)` for `V = [A −B; B A]` and `V⁻¹ = D [A B; −B A]`, `D (A² + B²) = 1`: what `exp` does to the
    translation part `log` computed -/
theorem V_mul_Vinv_apply (A B D x y : K) (hD : D * (A * A + B * B) = 1) :
    A * (A * D * x + B * D * y) - B * (-(B * D) * x + A * D * y) = x ∧
    B * (A * D * x + B * D * y) + A * (-(B * D) * x + A * D * y) = y :=
  ⟨by linear_combination x * hD, by linear_combination y * hD⟩

/-- **SE2: `exp(log X) = X`** on the coefficients, provided the `(A,B)` pair is non-degenerate (`A² + B² ≠ 0`;
    `exp_log_small` discharges it in the Taylor branch; in the generic branch it says `cos θ ≠ 1`). -/
theorem exp_log (dbg : Bool) {X : SE2 K} (hX : Valid X)
    (hAB : (SE2T.coefAB X.angle X.re X.im).1 * (SE2T.coefAB X.angle X.re X.im).1 +
      (SE2T.coefAB X.angle X.re X.im).2 * (SE2T.coefAB X.angle X.re X.im).2 ≠ 0) :
    SE2T.exp dbg (log X) = .ok X := by
  have h := hX
  unfold Valid at h
  have hc : Transc.cos X.angle = X.re := by simp [angle, LawfulTransc.cos_atan2 _ _ h]
  have hs : Transc.sin X.angle = X.im := by simp [angle, LawfulTransc.sin_atan2 _ _ h]
  have hm := make_ok dbg hX
  rcases hp : SE2T.coefAB X.angle X.re X.im with ⟨A, B⟩
  rw [hp] at hAB
  simp only at hAB
  obtain ⟨e1, e2⟩ := V_mul_Vinv_apply A B (1 / (A * A + B * B)) X.x X.y (one_div_mul_cancel hAB)
  simp only [SE2T.exp, SE2T.expRaw, log, scalar_sin, scalar_cos, scalar_nat, hc, hs, hp, Nat.cast_one]
  rw [e1, e2]
  exact hm

theorem exp_log_small (dbg : Bool) {X : SE2 K} (hX : Valid X)
    (hb : X.angle * X.angle * (X.angle * X.angle) < Transc.eps) :
    SE2T.exp dbg (log X) = .ok X :=
  exp_log dbg hX (ne_of_gt (coefAB_small_pos hb))

end SE2

end Manif
