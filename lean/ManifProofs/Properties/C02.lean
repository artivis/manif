/-
  C02 — exp is the matrix exponential of hat.
  Over ℝ, with the power series  Σ (hat t)ⁿ/n!  (= Mathlib's `NormedSpace.exp`, see
  `HasExpSum.exp_eq`):
    * rotation magnitude above the switch-over (SO2: every `θ ≠ 0`): equality, every t, for SO2, SE2,
      SO3, SE3 here and SE_2(3), SGal(3) in C02b;
    * rotation magnitude exactly zero: equality for SO2, SE2, SO3 (nilpotent case); nothing is stated
      for SE3, SE_2(3), SGal(3) with zero rotation and non-zero linear part;
    * `exp t` of SO2 and SE2 is always a valid element (unit rotation part), hence no exception.
  The Taylor branch `0 < θ⁴ < eps` is not covered by a theorem; it differs from the series by
  O(θ²)·(1+‖lin‖).
  Besides SO3's own (`A³ = −θ²A`, `hasExpSum_of_cube`) two series carry everything: a plane twist
  (`SE2T.hasExpSum_hat`; SO2 is the twist without translation) and a block-triangular `[W B; 0 N]` over a rotation
  generator (`hasExpSum_blk`, from `A⁵ = −θ²A³`; SE3, SE_2(3), SGal(3) are its instances once `R(exp)`, `ljac`, `fillE`
  are read as polynomials in `hat` — the rigid motions too, with `N = 0`, although their `hat` already satisfies
  `A⁴ = −θ²A²`).
-/
import ManifProofs.Properties.C01
import ManifProofs.Lemmas.Block
import ManifProofs.Inst.Real
import ManifProofs.Lemmas.Series
import Mathlib.Topology.Instances.Matrix
import Mathlib.Analysis.SpecialFunctions.Trigonometric.Basic

namespace Manif
open Matrix

namespace SE2T

theorem hat_cube (t : SE2T ℝ) :
    (hat t).toMatrix ^ 3 = (-(t.ang ^ 2)) • (hat t).toMatrix := by
  rw [pow_succ, pow_two, ← M3.toMatrix_mul, ← M3.toMatrix_mul, ← M3.toMatrix_smul]
  congr 1
  ext <;> msimp [hat, M3.mul, M3.smul, M3.map] <;> ring

theorem generic_of_not_small {θ : ℝ} (h : ¬ θ * θ * (θ * θ) < realEps) : θ ≠ 0 := by
  intro h0
  apply h
  rw [h0]
  simpa using realEps_pos

/-- `exp` above the switch-over, the branch of `coefAB` resolved -/
theorem expRaw_generic (t : SE2T ℝ) (h : ¬ t.ang * t.ang * (t.ang * t.ang) < realEps) :
    expRaw t = ⟨Real.sin t.ang / t.ang * t.x - (1 - Real.cos t.ang) / t.ang * t.y,
      (1 - Real.cos t.ang) / t.ang * t.x + Real.sin t.ang / t.ang * t.y, Real.cos t.ang, Real.sin t.ang⟩ := by
  simp [expRaw, coefAB, h]

/-- **the exponential series of a plane twist** `[0 −θ x; θ 0 y; 0 0 0]`, `θ ≠ 0` -/
theorem hasExpSum_hat (t : SE2T ℝ) (hθ : t.ang ≠ 0) :
    HasExpSum (hat t).toMatrix
      (⟨Real.cos t.ang, -Real.sin t.ang, Real.sin t.ang / t.ang * t.x - (1 - Real.cos t.ang) / t.ang * t.y,
        Real.sin t.ang, Real.cos t.ang, (1 - Real.cos t.ang) / t.ang * t.x + Real.sin t.ang / t.ang * t.y,
        0, 0, 1⟩ : M3 ℝ).toMatrix := by
  have key := hasExpSum_of_cube (hat t).toMatrix t.ang hθ (hat_cube t)
  rw [← M3.toMatrix_quadratic] at key
  convert key using 2
  ext <;> msimp [hat, M3.one, M3.add, M3.zip, M3.smul, M3.map, M3.mul] <;> field_simp <;> ring

/-- the series of a translation generator (`θ = 0`: `hat t` squares to zero) -/
theorem hasExpSum_hat_zero (x y : ℝ) :
    HasExpSum (hat ⟨x, y, 0⟩).toMatrix (⟨1, 0, x, 0, 1, y, 0, 0, 1⟩ : M3 ℝ).toMatrix := by
  have hsq : (hat (⟨x, y, 0⟩ : SE2T ℝ)).toMatrix ^ 2 = 0 := by
    rw [pow_two, ← M3.toMatrix_mul, ← M3.toMatrix_zero]
    congr 1
    ext <;> simp [hat, M3.mul, M3.zero]
  have key := hasExpSum_of_sq_zero _ hsq
  rw [← M3.toMatrix_one, ← M3.toMatrix_add] at key
  convert key using 2
  ext <;> simp [hat, M3.one, M3.add, M3.zip]

/-- **generic branch**: the matrix of `exp t` is the exponential series of `hat t`. -/
theorem exp_generic (t : SE2T ℝ) (h : ¬ t.ang * t.ang * (t.ang * t.ang) < realEps) :
    HasExpSum (hat t).toMatrix (SE2.toMat (expRaw t)) := by
  rw [SE2.toMat, expRaw_generic t h, SE2.transform_eq]
  exact hasExpSum_hat t (generic_of_not_small h)

/-- **rotation magnitude exactly zero** (Taylor branch; `hat t` is nilpotent). -/
theorem exp_zero_angle (x y : ℝ) :
    HasExpSum (hat ⟨x, y, 0⟩).toMatrix (SE2.toMat (expRaw ⟨x, y, 0⟩)) := by
  have e : expRaw (⟨x, y, 0⟩ : SE2T ℝ) = ⟨x, y, 1, 0⟩ := by simp [expRaw, coefAB, realEps_pos]
  rw [SE2.toMat, e, SE2.transform_eq, neg_zero]
  exact hasExpSum_hat_zero x y

/-- **`exp t` is valid for every t** and construction never raises. -/
theorem exp_valid (dbg : Bool) (t : SE2T ℝ) :
    SE2T.exp dbg t = .ok (expRaw t) ∧ SE2.Valid (expRaw t) :=
  ⟨SE2.exp_ok dbg t, SE2.expRaw_valid t⟩
example : ¬ (1 : ℝ) * 1 * (1 * 1) < realEps := by unfold realEps; norm_num
end SE2T

namespace SO2T

theorem exp_valid (dbg : Bool) (t : SO2T ℝ) :
    SO2T.exp dbg t = .ok (expRaw t) ∧ SO2.Valid (expRaw t) :=
  ⟨SO2.exp_ok dbg t, SO2.expRaw_valid t⟩

/-- 3×3 embedding of `hat` used by `transform()`. -/
def hat3 (t : SO2T ℝ) : Matrix (Fin 3) (Fin 3) ℝ := !![0, -t.ang, 0; t.ang, 0, 0; 0, 0, 0]

/-- the rotation generator is the plane twist without translation -/
theorem hat3_eq (t : SO2T ℝ) : hat3 t = (SE2T.hat ⟨0, 0, t.ang⟩).toMatrix := by
  simp [hat3, SE2T.hat, M3.toMatrix]

/-- **SO2**: for every `θ ≠ 0` the matrix of `exp` is the exponential series of `hat`. -/
theorem exp_series (t : SO2T ℝ) (hθ : t.ang ≠ 0) :
    HasExpSum (hat3 t) (SO2.toMat (expRaw t)) := by
  have key := SE2T.hasExpSum_hat ⟨0, 0, t.ang⟩ hθ
  simp only [mul_zero, sub_zero, add_zero] at key
  rw [hat3_eq, SO2.toMat, SO2.transform_eq (SO2.expRaw_valid t)]
  exact key

theorem exp_series_zero :
    HasExpSum (hat3 ⟨0⟩) (SO2.toMat (expRaw (⟨0⟩ : SO2T ℝ))) := by
  have e : expRaw (⟨0⟩ : SO2T ℝ) = ⟨1, 0⟩ := by simp [expRaw]
  rw [hat3_eq, SO2.toMat, e, SO2.transform_eq (by simp [SO2.Valid]), neg_zero]
  exact SE2T.hasExpSum_hat_zero 0 0
end SO2T

/-- the closed-form branch of `exp` with the norm `θ` of the tangent as a variable (`θ² = |t|²`) -/
theorem SO3.expRaw_polar (t : SO3T ℝ) {θ : ℝ} (hθ : 0 < θ) (hθ2 : θ ^ 2 = t.v.x * t.v.x + (t.v.y * t.v.y + t.v.z * t.v.z))
    (h : realEps < θ ^ 2) :
    SO3T.expRaw t = ⟨Real.sin (1 / 2 * θ) * (t.v.x / θ), Real.sin (1 / 2 * θ) * (t.v.y / θ),
      Real.sin (1 / 2 * θ) * (t.v.z / θ), Real.cos (1 / 2 * θ)⟩ := by
  have hp : 0 < θ ^ 2 := pow_pos hθ 2
  simp [SO3T.expRaw, V3.sqNorm, sum3, ← hθ2, h, Quat.ofAngleAxis, V3.normalized, hp, V3.divs, Real.sqrt_sq hθ.le]

namespace SO3T

theorem hat_cube (t : SO3T ℝ) :
    (hat t).toMatrix ^ 3 = (-(t.v.x * t.v.x + (t.v.y * t.v.y + t.v.z * t.v.z))) • (hat t).toMatrix := by
  rw [pow_succ, pow_two, ← M3.toMatrix_mul, ← M3.toMatrix_mul, hat, M3.skew_cube, M3.toMatrix_smul]

/-- Eigen's quaternion → rotation-matrix conversion applied to `(s·a/θ, c)` is Rodrigues' matrix
    with `sin θ = 2sc`, `1 − cos θ = 2s²` (pure algebra, any `s c`). -/
theorem toRot_axis_angle (x y z θ s c : ℝ) (hθ : θ ≠ 0) :
    (Quat.toRot (⟨s * (x / θ), s * (y / θ), s * (z / θ), c⟩ : Quat ℝ)).toMatrix =
      1 + (2 * s * c / θ) • (hat ⟨⟨x, y, z⟩⟩).toMatrix +
        ((1 - (1 - 2 * s ^ 2)) / θ ^ 2) • (hat ⟨⟨x, y, z⟩⟩).toMatrix ^ 2 := by
  rw [← M3.toMatrix_quadratic]
  congr 1
  ext <;> msimp [Quat.toRot, hat, M3.skew, M3.one, M3.add, M3.zip, M3.smul, M3.map, M3.mul] <;>
    field_simp <;> ring

-- with the norm `θ` of the tangent as a variable (`θ² = |t|²`), in the form `hasExpSum_blk` has the blocks

theorem hat_cube_polar (t : SO3T ℝ) {θ : ℝ} (hθ2 : θ ^ 2 = t.v.x * t.v.x + (t.v.y * t.v.y + t.v.z * t.v.z)) :
    (hat t).toMatrix ^ 3 = (-(θ ^ 2)) • (hat t).toMatrix := by
  rw [hθ2]
  exact hat_cube t

/-- Rodrigues' matrix, through `toRot_axis_angle` at the half angle -/
theorem rot_polar (t : SO3T ℝ) {θ : ℝ} (hθ : 0 < θ) (hθ2 : θ ^ 2 = t.v.x * t.v.x + (t.v.y * t.v.y + t.v.z * t.v.z))
    (h : realEps < θ ^ 2) :
    (Quat.toRot (expRaw t)).toMatrix =
      1 + (Real.sin θ / θ) • (hat t).toMatrix + ((1 - Real.cos θ) / θ ^ 2) • (hat t).toMatrix ^ 2 := by
  rw [SO3.expRaw_polar t hθ hθ2 h, one_div_mul_eq_div, toRot_axis_angle _ _ _ _ _ _ hθ.ne', ← sin_eq_half, ← cos_eq_half]

theorem ljac_polar (t : SO3T ℝ) {θ : ℝ} (hθ : 0 < θ) (hθ2 : θ ^ 2 = t.v.x * t.v.x + (t.v.y * t.v.y + t.v.z * t.v.z))
    (h : realEps < θ ^ 2) :
    (ljac t).toMatrix =
      1 + ((1 - Real.cos θ) / θ ^ 2) • (hat t).toMatrix + ((θ - Real.sin θ) / θ ^ 3) • (hat t).toMatrix ^ 2 := by
  have hnle : ¬ t.v.x * t.v.x + (t.v.y * t.v.y + t.v.z * t.v.z) ≤ realEps := not_le.mpr (hθ2 ▸ h)
  unfold ljac
  simp only [V3.sqNorm, sum3, scalar_le, scalar_eps, transc_eps_real, hnle, decide_false, Bool.false_eq_true, if_false,
    M3.toMatrix_add, M3.toMatrix_one, M3.toMatrix_smul, M3.toMatrix_mul, scalar_sqrt, transc_sqrt_real, scalar_sin,
    transc_sin_real, scalar_nat, Nat.cast_ofNat, smul_mul_assoc]
  -- `2 sin²(θ/2) = 1 − cos θ`
  rw [← hθ2, Real.sqrt_sq hθ.le, ← pow_two, cos_eq_half θ, pow_succ θ 2]
  congr 3
  ring

/-- the rotation matrix of `exp t` in the generic branch is Rodrigues' polynomial in `hat t` -/
theorem rot_expRaw (t : SO3T ℝ) (h : realEps < t.v.x * t.v.x + (t.v.y * t.v.y + t.v.z * t.v.z)) :
    (Quat.toRot (expRaw t)).toMatrix =
      1 + (Real.sin (Real.sqrt (t.v.x * t.v.x + (t.v.y * t.v.y + t.v.z * t.v.z))) /
            Real.sqrt (t.v.x * t.v.x + (t.v.y * t.v.y + t.v.z * t.v.z))) • (hat t).toMatrix +
        ((1 - Real.cos (Real.sqrt (t.v.x * t.v.x + (t.v.y * t.v.y + t.v.z * t.v.z)))) /
            Real.sqrt (t.v.x * t.v.x + (t.v.y * t.v.y + t.v.z * t.v.z)) ^ 2) • (hat t).toMatrix ^ 2 :=
  rot_polar t (sqrt_pos_sq h).1 (sqrt_pos_sq h).2 ((sqrt_pos_sq h).2.symm ▸ h)

/-- left Jacobian of SO3 in the generic branch, as a polynomial in `hat` -/
theorem ljac_generic (t : SO3T ℝ) (h : realEps < t.v.x * t.v.x + (t.v.y * t.v.y + t.v.z * t.v.z)) :
    (ljac t).toMatrix =
      1 + ((1 - Real.cos (Real.sqrt (t.v.x * t.v.x + (t.v.y * t.v.y + t.v.z * t.v.z)))) /
            Real.sqrt (t.v.x * t.v.x + (t.v.y * t.v.y + t.v.z * t.v.z)) ^ 2) • (hat t).toMatrix +
        ((Real.sqrt (t.v.x * t.v.x + (t.v.y * t.v.y + t.v.z * t.v.z)) -
            Real.sin (Real.sqrt (t.v.x * t.v.x + (t.v.y * t.v.y + t.v.z * t.v.z)))) /
            Real.sqrt (t.v.x * t.v.x + (t.v.y * t.v.y + t.v.z * t.v.z)) ^ 3) • (hat t).toMatrix ^ 2 :=
  ljac_polar t (sqrt_pos_sq h).1 (sqrt_pos_sq h).2 ((sqrt_pos_sq h).2.symm ▸ h)

/-- **SO3, generic branch** (`θ² > eps`, every such tangent, `θ` beyond π included): the rotation
    matrix of `exp t` is the exponential series of `hat t` — Rodrigues' formula reached through the
    half-angle quaternion and Eigen's `toRotationMatrix`. -/
theorem exp_series (t : SO3T ℝ) (h : realEps < t.v.x * t.v.x + (t.v.y * t.v.y + t.v.z * t.v.z)) :
    HasExpSum (hat t).toMatrix (Quat.toRot (expRaw t)).toMatrix := by
  obtain ⟨θ, hθ, hθ2, h'⟩ := exists_norm h
  rw [rot_polar t hθ hθ2 h']
  exact hasExpSum_of_cube _ θ hθ.ne' (hat_cube_polar t hθ2)

/-- the matrix exponential itself (Mathlib's `NormedSpace.exp`) -/
theorem exp_eq_matrix_exp (t : SO3T ℝ) (h : realEps < t.v.x * t.v.x + (t.v.y * t.v.y + t.v.z * t.v.z)) :
    NormedSpace.exp (hat t).toMatrix = (Quat.toRot (expRaw t)).toMatrix :=
  (exp_series t h).exp_eq

/-- rotation magnitude exactly zero: `exp 0 = identity`, the series of the zero matrix. -/
theorem exp_series_zero :
    HasExpSum (hat (⟨⟨0, 0, 0⟩⟩ : SO3T ℝ)).toMatrix (Quat.toRot (expRaw (⟨⟨0, 0, 0⟩⟩ : SO3T ℝ))).toMatrix := by
  have e : expRaw (⟨⟨0, 0, 0⟩⟩ : SO3T ℝ) = ⟨0, 0, 0, 1⟩ := by
    simp [expRaw, V3.sqNorm, sum3, not_lt.mpr realEps_pos.le]
  have hz : (hat (⟨⟨0, 0, 0⟩⟩ : SO3T ℝ)).toMatrix = 0 := by
    rw [← M3.toMatrix_zero]
    congr 1
    ext <;> simp [hat, M3.skew, M3.zero]
  rw [e, Quat.toRot_one, M3.toMatrix_one, hz]
  simpa using hasExpSum_of_sq_zero (0 : Matrix (Fin 3) (Fin 3) ℝ) (zero_pow two_ne_zero)

example : realEps < (1 : ℝ) * 1 + (0 * 0 + 0 * 0) := by unfold realEps; norm_num
end SO3T

/-- `[R p; 0 1]` from a Mathlib matrix and vector (`hom4` takes the model's `M3`, `V3`); `poly_blocks` is
    stated with it -/
def hom4M (R : Matrix (Fin 3) (Fin 3) ℝ) (p : Fin 3 → ℝ) : Matrix (Fin 4) (Fin 4) ℝ :=
  !![R 0 0, R 0 1, R 0 2, p 0; R 1 0, R 1 1, R 1 2, p 1; R 2 0, R 2 1, R 2 2, p 2; 0, 0, 0, 1]

theorem hom4M_eq_blk (R : Matrix (Fin 3) (Fin 3) ℝ) (p : Fin 3 → ℝ) : hom4M R p = blk R (col1 p) 1 :=
  lit4_eq_blk R p 1

/-- **the exponential series of a block-triangular `[W B; 0 N]`** with `W³ = -θ²W` (a rotation generator) and
    `N² = 0`: the rotation block is Rodrigues' matrix, the columns are `Jl B + E B N` with the left Jacobian `Jl`
    and the Galilean `E` as polynomials in `W`, the corner is `1 + N`. -/
theorem hasExpSum_blk {n : ℕ} (W : Matrix (Fin 3) (Fin 3) ℝ) (B : Matrix (Fin 3) (Fin n) ℝ)
    (N : Matrix (Fin n) (Fin n) ℝ) {θ : ℝ} (hθ : θ ≠ 0) (hW : W ^ 3 = (-(θ ^ 2)) • W) (hN : N * N = 0) :
    HasExpSum (blk W B N)
      (blk (1 + (Real.sin θ / θ) • W + ((1 - Real.cos θ) / θ ^ 2) • W ^ 2)
        ((1 + ((1 - Real.cos θ) / θ ^ 2) • W + ((θ - Real.sin θ) / θ ^ 3) • W ^ 2) * B +
          ((1 / 2 : ℝ) • 1 + ((θ - Real.sin θ) / θ ^ 3) • W + ((Real.cos θ - 1 + θ ^ 2 / 2) / θ ^ 4) • W ^ 2) * B * N)
        (1 + N)) := by
  have key := hasExpSum_of_quintic (blk W B N) θ hθ (blk_quintic B N hW hN)
  rw [blk_poly W B N hN, hW, pow_add_three_of_cube hW 1] at key
  -- fold `W³`, `W⁴` back: `1 − θ²(θ − sin θ)/θ³ = sin θ/θ`, `½ − θ²(cos θ − 1 + θ²/2)/θ⁴ = (1 − cos θ)/θ²`
  have k1 : (1 : ℝ) - (θ - Real.sin θ) / θ ^ 3 * θ ^ 2 = Real.sin θ / θ := by field_simp; ring
  have k2 : (1 / 2 : ℝ) - (Real.cos θ - 1 + θ ^ 2 / 2) / θ ^ 4 * θ ^ 2 = (1 - Real.cos θ) / θ ^ 2 := by
    field_simp; ring
  convert key using 2
  · rw [← k1, ← k2]
    module
  · rw [← k2]
    congr 2
    module

/-- the case `N = 0` (rigid motions) -/
theorem hasExpSum_blk_zero {n : ℕ} (W : Matrix (Fin 3) (Fin 3) ℝ) (B : Matrix (Fin 3) (Fin n) ℝ) {θ : ℝ}
    (hθ : θ ≠ 0) (hW : W ^ 3 = (-(θ ^ 2)) • W) :
    HasExpSum (blk W B 0)
      (blk (1 + (Real.sin θ / θ) • W + ((1 - Real.cos θ) / θ ^ 2) • W ^ 2)
        ((1 + ((1 - Real.cos θ) / θ ^ 2) • W + ((θ - Real.sin θ) / θ ^ 3) • W ^ 2) * B) 1) := by
  have key := hasExpSum_blk W B 0 hθ hW (Matrix.mul_zero 0)
  rwa [Matrix.mul_zero, add_zero, add_zero] at key

namespace SE3T

/-- `hat` as a Mathlib matrix -/
def hat4 (t : SE3T ℝ) : Matrix (Fin 4) (Fin 4) ℝ :=
  !![0, -t.ang.z, t.ang.y, t.lin.x; t.ang.z, 0, -t.ang.x, t.lin.y; -t.ang.y, t.ang.x, 0, t.lin.z; 0, 0, 0, 0]

/-- `hat4` is the model's `hat()` (row-major 4×4) -/
theorem hat4_eq_hatRows (t : SE3T ℝ) : hat4 t = matOfRows 4 t.hatRows := by
  rw [hatRows, matOfRows_lit4]
  simp only [scalar_nat, Nat.cast_zero]
  rfl

theorem hat4_eq_blk (t : SE3T ℝ) : hat4 t = blk (SO3T.hat t.asSO3).toMatrix (col1 t.lin.toVec) 0 :=
  (hat4_eq_hatRows t).trans (hatRows_eq_blk t)

theorem hat4_quartic (t : SE3T ℝ) :
    hat4 t ^ 4 = (-(t.ang.x * t.ang.x + (t.ang.y * t.ang.y + t.ang.z * t.ang.z))) • hat4 t ^ 2 := by
  rw [hat4_eq_blk]
  exact blk_quartic _ (SO3T.hat_cube t.asSO3)

/-- the cubic polynomial in `hat4` is the homogeneous matrix of the cubic polynomials in the
    rotation block (pure algebra, any coefficients) -/
theorem poly_blocks (t : SE3T ℝ) (a b : ℝ) :
    1 + hat4 t + a • hat4 t ^ 2 + b • hat4 t ^ 3 =
      hom4M (1 + (SO3T.hat t.asSO3).toMatrix + a • (SO3T.hat t.asSO3).toMatrix ^ 2 + b • (SO3T.hat t.asSO3).toMatrix ^ 3)
        ((1 + a • (SO3T.hat t.asSO3).toMatrix + b • (SO3T.hat t.asSO3).toMatrix ^ 2).mulVec t.lin.toVec) := by
  rw [hat4_eq_blk, hom4M_eq_blk, ← mul_col1]
  exact blk_zero_poly (n := 1) _ _ a b

/-- **SE3, generic branch**: the homogeneous matrix of `exp t` is the exponential series of `hat t`. -/
theorem exp_series (t : SE3T ℝ) (h : realEps < t.ang.x * t.ang.x + (t.ang.y * t.ang.y + t.ang.z * t.ang.z)) :
    HasExpSum (hat4 t) (hom4 (Quat.toRot (expRaw t).2) (expRaw t).1) := by
  obtain ⟨θ, hθ, hθ2, h'⟩ := exists_norm h
  rw [hat4_eq_blk, hom4_eq_blk, expRaw, M3.toVec_mulVec, SO3T.rot_polar t.asSO3 hθ hθ2 h',
    SO3T.ljac_polar t.asSO3 hθ hθ2 h', ← mul_col1]
  exact hasExpSum_blk_zero _ _ hθ.ne' (SO3T.hat_cube_polar t.asSO3 hθ2)

/-- the matrix exponential itself (Mathlib's `NormedSpace.exp`) -/
theorem exp_eq_matrix_exp (t : SE3T ℝ) (h : realEps < t.ang.x * t.ang.x + (t.ang.y * t.ang.y + t.ang.z * t.ang.z)) :
    NormedSpace.exp (hat4 t) = hom4 (Quat.toRot (expRaw t).2) (expRaw t).1 :=
  (exp_series t h).exp_eq

example : realEps < (0 : ℝ) * 0 + (1 * 1 + 0 * 0) := by unfold realEps; norm_num
end SE3T

end Manif
