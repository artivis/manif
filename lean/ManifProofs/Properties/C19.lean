/-
  Properties/C19.lean — "each instantiation forwards to the documented behaviour of the canonical
  member", the half of C19 that is a statement about behaviour (the compile/link half is the
  exhaustive enumeration by the compiler in tools/apimatrix.py, generated from the same table).

  All statements quantify over every scalar instance `K` (so they cover the `double`, `float`
  and dual-number instantiations at once), every group name, every argument list and every mask;
  the model has no notion of storage, so owning / Map / Map<const> operands are one case
  (C10 carries the view semantics).
-/
import ManifProofs.Properties.C04
import ManifProofs.Lemmas.Except

namespace Manif
open Manif.Api

/-- a canonical member is never itself an alias of either kind: resolution stops after one step. -/
theorem canonical_targets_fixed :
    ∀ p ∈ aliasTable ++ swappedTable, canonical p.2 = p.2 ∧ isSwapped p.2 = false := by
  decide

theorem canonical_spec (op : String) :
    canonical op = op ∨ (op, canonical op) ∈ aliasTable ++ swappedTable := by
  unfold canonical
  split
  · next c h => exact .inr (List.mem_append_left _ (lookup_mem h))
  · split
    · next c h => exact .inr (List.mem_append_right _ (lookup_mem h))
    · exact .inl rfl

/-- `canonical` is idempotent on *every* operation name (not only the listed ones). -/
theorem canonical_idem (op : String) : canonical (canonical op) = canonical op := by
  rcases canonical_spec op with h | h
  · rw [h, h]
  · exact (canonical_targets_fixed _ h).1

theorem canonical_of_unlisted (op : String) (h1 : aliasTable.lookup op = none)
    (h2 : swappedTable.lookup op = none) : canonical op = op := by
  simp [canonical, h1, h2]

theorem tables_disjoint : ∀ p ∈ swappedTable, aliasTable.lookup p.1 = none := by
  decide

theorem runGroup_target {K : Type} [Scalar K] (grp : String) (dbg : Bool) (mask : Nat) (args : List K)
    (ints : List Int) {p : String × String} (hp : p ∈ aliasTable ++ swappedTable) :
    runGroup grp dbg p.2 mask args ints = runCanonical grp dbg p.2 mask args ints := by
  obtain ⟨hc, hs⟩ := canonical_targets_fixed p hp
  rw [runGroup_alias grp dbg p.2 mask args ints hs, hc]

/-- every plain alias, on every group / scalar / mask / argument list, answers exactly what the
    canonical member answers (value *and* optional outputs, error or not). -/
theorem alias_forwards {K : Type} [Scalar K] (grp : String) (dbg : Bool) (mask : Nat)
    (args : List K) (ints : List Int) :
    ∀ p ∈ aliasTable, runGroup grp dbg p.1 mask args ints = runGroup grp dbg p.2 mask args ints := by
  intro p hp
  obtain ⟨h1, h2⟩ := alias_table p hp
  rw [runGroup_alias grp dbg p.1 mask args ints h2, h1, runGroup_target _ _ _ _ _ (List.mem_append_left _ hp)]

/-- a tangent-side form `t.f(X, J_t, J_m)` returns the canonical `X.g(t, J_m, J_t)` evaluated
    with the two optional-output requests exchanged, its outputs re-ordered accordingly; in
    particular with no Jacobian requested the two calls are identical. -/
theorem swapped_forwards_value {K : Type} [Scalar K] (grp : String) (dbg : Bool)
    (args : List K) (ints : List Int) :
    ∀ p ∈ swappedTable, ∀ out, runGroup grp dbg p.2 0 args ints = some (.ok out) →
      out.length = (groupSizes grp).1 →
      runGroup grp dbg p.1 0 args ints = some (.ok out) := by
  intro p hp out hrun hlen
  obtain ⟨h1, h2⟩ := swapped_table p hp
  rw [runGroup_target _ _ _ _ _ (List.mem_append_right _ hp)] at hrun
  simp [runGroup, withAliases, h1, h2, swapMask, hrun, Except.map, ← hlen]

/-- errors are forwarded unchanged, too. -/
theorem swapped_forwards_error {K : Type} [Scalar K] (grp : String) (dbg : Bool) (mask : Nat)
    (hm : mask < 4) (args : List K) (ints : List Int) :
    ∀ p ∈ swappedTable, ∀ e, runGroup grp dbg p.2 (swapMask mask) args ints = some (.error e) →
      runGroup grp dbg p.1 mask args ints = some (.error e) := by
  intro p hp e hrun
  obtain ⟨h1, h2⟩ := swapped_table p hp
  rw [runGroup_target _ _ _ _ _ (List.mem_append_right _ hp)] at hrun
  simp [runGroup, withAliases, h1, h2, hrun, Except.map]

-- non-vacuity: the tables are inhabited and resolve as documented
example : ("op*", "compose") ∈ aliasTable ∧ ("t.plus", "lplus") ∈ swappedTable := by decide
example : canonical "f_between" = "between" ∧ canonical "not-an-op" = "not-an-op" := by decide

end Manif
