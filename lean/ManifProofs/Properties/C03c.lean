/-
  Properties/C03c.lean — C03, SE3, SE_2(3), SGal(3) over ℝ, on the closed-form branches:
    * `exp(log X)` has exactly the translation-like parts (and time) of `X` and the quaternion `±X.q` (the same rigid
      motion), as the raw value and as the whole API call (validation included), for every valid X whose rotation is
      above the switch-over;
    * `log(exp t) = t` for `θ² > eps`, `θ ≤ π`.
  The rotation part is SO3's; every translation-like part is `Jl(θ)·(Jl⁻¹(θ)·u) = u` resp. `Jl⁻¹(θ)·(Jl(θ)·u) = u`,
  i.e. the C06 identity `Jl⁻¹ Jl = I`, at `θ = log R` with its hypotheses (`θ² > eps`, `sin(θ/2) ≠ 0`) from
  `SO3.log_generic_branch`.  SGal(3)'s `E` matrix cancels because `log` and `exp` evaluate it at the same `θ`.
  Names: `SE3.exp_log_generic` and `SE3.log_exp` speak of `expRaw` (the call is `SE3.exp_log_api`), while
  `SE23/SGal3.exp_log_generic` and `log_exp` speak of the checked call `exp dbg`.
-/
import ManifProofs.Properties.C03b
import ManifProofs.Properties.C06b
import ManifProofs.Properties.C01b
import Mathlib.LinearAlgebra.Matrix.NonsingularInverse
namespace Manif
open Matrix
namespace SO3

theorem ljac_ljacinv_log (X : SO3 ℝ) (hX : Valid X)
    (h : realEps < X.q.x * X.q.x + (X.q.y * X.q.y + X.q.z * X.q.z)) (u : V3 ℝ) :
    (SO3T.ljac (log X)).mulVec ((SO3T.ljacinv (log X)).mulVec u) = u := by
  obtain ⟨hbig, hsin⟩ := log_generic_branch X hX h
  exact M3.mulVec_cancel (mul_eq_one_comm.mp (SO3T.ljacinv_mul_ljac (log X) hbig hsin)) u

theorem ljacinv_ljac_apply (t : SO3T ℝ) (h : realEps < t.v.x * t.v.x + (t.v.y * t.v.y + t.v.z * t.v.z))
    (hs : Real.sin (Real.sqrt (t.v.x * t.v.x + (t.v.y * t.v.y + t.v.z * t.v.z)) / 2) ≠ 0) (u : V3 ℝ) :
    (SO3T.ljacinv t).mulVec ((SO3T.ljac t).mulVec u) = u :=
  M3.mulVec_cancel (SO3T.ljacinv_mul_ljac t h hs) u

/-- above `log`'s switch-over `exp t` is away from the pole of `Jl⁻¹` -/
theorem sin_half_ne (θ : ℝ) (hsw : realEps < Real.sin (1 / 2 * θ) ^ 2) : Real.sin (θ / 2) ≠ 0 := by
  intro h0
  rw [show θ / 2 = 1 / 2 * θ by ring] at h0
  rw [h0, zero_pow two_ne_zero] at hsw
  exact absurd hsw (not_lt.mpr realEps_pos.le)
end SO3

namespace SE3
/-- **SE3: `exp(log X)`** has the translation of `X` exactly and the quaternion `±X.q` (same
    rotation), for every valid X whose rotation is above the switch-over. -/
theorem exp_log_generic (X : SE3 ℝ) (hX : Valid X)
    (h : realEps < X.q.x * X.q.x + (X.q.y * X.q.y + X.q.z * X.q.z)) :
    (SE3T.expRaw (log X)).1 = X.t ∧
    (SE3T.expRaw (log X)).2 = if X.q.w < 0 then ⟨-X.q.x, -X.q.y, -X.q.z, -X.q.w⟩ else X.q :=
  ⟨SO3.ljac_ljacinv_log X.asSO3 hX h X.t, SO3.exp_log_generic X.asSO3 hX h⟩

theorem exp_ok (dbg : Bool) (t : SE3T ℝ) (h : realEps < t.ang.x * t.ang.x + (t.ang.y * t.ang.y + t.ang.z * t.ang.z)) :
    SE3T.exp dbg t = .ok ⟨(SE3T.expRaw t).1, (SE3T.expRaw t).2⟩ := by
  unfold SE3T.exp
  rw [SO3.exp_ok dbg t.asSO3 h]
  exact make_ok' dbg _ (SO3.expRaw_unit t.asSO3 h)

theorem exp_log_api (dbg : Bool) (X : SE3 ℝ) (hX : Valid X)
    (h : realEps < X.q.x * X.q.x + (X.q.y * X.q.y + X.q.z * X.q.z)) :
    SE3T.exp dbg (log X) = .ok ⟨X.t, SO3.canon X.q⟩ := by
  unfold SE3T.exp
  have hq : SO3T.exp dbg (log X).asSO3 = .ok ⟨SO3.canon X.q⟩ := SO3.exp_log_api dbg X.asSO3 hX h
  have ht : (SO3T.ljac (log X).asSO3).mulVec (log X).lin = X.t := SO3.ljac_ljacinv_log X.asSO3 hX h X.t
  rw [hq, ht]
  exact make_ok' dbg _ ((SO3.canon_sqn _).trans hX)

theorem log_exp (t : SE3T ℝ) (h : realEps < t.ang.x * t.ang.x + (t.ang.y * t.ang.y + t.ang.z * t.ang.z))
    (hpi : Real.sqrt (t.ang.x * t.ang.x + (t.ang.y * t.ang.y + t.ang.z * t.ang.z)) ≤ Real.pi)
    (hsw : realEps < Real.sin (1 / 2 * Real.sqrt (t.ang.x * t.ang.x + (t.ang.y * t.ang.y + t.ang.z * t.ang.z))) ^ 2) :
    log ⟨(SE3T.expRaw t).1, (SE3T.expRaw t).2⟩ = t := by
  have hso : SO3.log ⟨SO3T.expRaw t.asSO3⟩ = t.asSO3 := SO3.log_exp t.asSO3 h hpi hsw
  have hv := SO3.ljacinv_ljac_apply t.asSO3 h (SO3.sin_half_ne _ hsw) t.lin
  unfold log SE3T.expRaw
  simp only [asSO3]
  rw [hso, hv]
  rfl
end SE3

namespace SE23
theorem exp_ok (dbg : Bool) (t : SE23T ℝ) (h : realEps < t.ang.x * t.ang.x + (t.ang.y * t.ang.y + t.ang.z * t.ang.z)) :
    SE23T.exp dbg t = .ok ⟨(SO3T.ljac t.asSO3).mulVec t.lin, SO3T.expRaw t.asSO3, (SO3T.ljac t.asSO3).mulVec t.lin2⟩ := by
  simp only [SE23T.exp, SO3.exp_ok dbg t.asSO3 h, bind, Except.bind]
  exact make_ok' dbg _ _ (SO3.expRaw_unit t.asSO3 h)

/-- **SE_2(3): `exp(log X) = X`** (whole API call; quaternion up to sign). -/
theorem exp_log_generic (dbg : Bool) (X : SE23 ℝ) (hX : Valid X)
    (h : realEps < X.q.x * X.q.x + (X.q.y * X.q.y + X.q.z * X.q.z)) :
    SE23T.exp dbg (log X) = .ok ⟨X.t, SO3.canon X.q, X.v⟩ := by
  have hq : SO3T.exp dbg (log X).asSO3 = .ok ⟨SO3.canon X.q⟩ := SO3.exp_log_api dbg X.asSO3 hX h
  have h1 : (SO3T.ljac (log X).asSO3).mulVec (log X).lin = X.t := SO3.ljac_ljacinv_log X.asSO3 hX h X.t
  have h2 : (SO3T.ljac (log X).asSO3).mulVec (log X).lin2 = X.v := SO3.ljac_ljacinv_log X.asSO3 hX h X.v
  simp only [SE23T.exp, hq, h1, h2, bind, Except.bind]
  exact make_ok' dbg _ _ ((SO3.canon_sqn _).trans hX)

theorem log_exp (dbg : Bool) (t : SE23T ℝ) (h : realEps < t.ang.x * t.ang.x + (t.ang.y * t.ang.y + t.ang.z * t.ang.z))
    (hpi : Real.sqrt (t.ang.x * t.ang.x + (t.ang.y * t.ang.y + t.ang.z * t.ang.z)) ≤ Real.pi)
    (hsw : realEps < Real.sin (1 / 2 * Real.sqrt (t.ang.x * t.ang.x + (t.ang.y * t.ang.y + t.ang.z * t.ang.z))) ^ 2) :
    (SE23T.exp dbg t).map log = .ok t := by
  have hso : SO3.log ⟨SO3T.expRaw t.asSO3⟩ = t.asSO3 := SO3.log_exp t.asSO3 h hpi hsw
  have hs := SO3.sin_half_ne _ hsw
  rw [exp_ok dbg t h]
  simp only [Except.map, log, asSO3]
  rw [hso, SO3.ljacinv_ljac_apply t.asSO3 h hs t.lin, SO3.ljacinv_ljac_apply t.asSO3 h hs t.lin2]
  rfl
end SE23

namespace SGal3
theorem exp_ok (dbg : Bool) (t : SGal3T ℝ) (h : realEps < t.ang.x * t.ang.x + (t.ang.y * t.ang.y + t.ang.z * t.ang.z)) :
    SGal3T.exp dbg t = .ok ⟨((SO3T.ljac t.asSO3).mulVec t.lin).add ((SGal3T.fillE t.asSO3).mulVec (t.lin2.smul t.t)),
      SO3T.expRaw t.asSO3, (SO3T.ljac t.asSO3).mulVec t.lin2, t.t⟩ := by
  simp only [SGal3T.exp, SO3.exp_ok dbg t.asSO3 h, bind, Except.bind]
  exact make_ok' dbg _ _ _ (SO3.expRaw_unit t.asSO3 h)

/-- **SGal(3): `exp(log X) = X`** (whole API call; quaternion up to sign; time exactly). -/
theorem exp_log_generic (dbg : Bool) (X : SGal3 ℝ) (hX : Valid X)
    (h : realEps < X.q.x * X.q.x + (X.q.y * X.q.y + X.q.z * X.q.z)) :
    SGal3T.exp dbg (log X) = .ok ⟨X.p, SO3.canon X.q, X.v, X.t⟩ := by
  have hq : SO3T.exp dbg (log X).asSO3 = .ok ⟨SO3.canon X.q⟩ := SO3.exp_log_api dbg X.asSO3 hX h
  have h2 : (SO3T.ljac (log X).asSO3).mulVec (log X).lin2 = X.v := SO3.ljac_ljacinv_log X.asSO3 hX h X.v
  -- `log` subtracts `E·(ν t)` from the position before applying `Jl⁻¹`, `exp` adds the same vector back
  have h1 : ((SO3T.ljac (log X).asSO3).mulVec (log X).lin).add
      ((SGal3T.fillE (log X).asSO3).mulVec ((log X).lin2.smul (log X).t)) = X.p :=
    (congrArg (V3.add · _) (SO3.ljac_ljacinv_log X.asSO3 hX h _)).trans (V3.sub_add_cancel _ _)
  simp only [SGal3T.exp, hq, h1, h2, bind, Except.bind]
  exact make_ok' dbg _ _ _ ((SO3.canon_sqn _).trans hX)

theorem log_exp (dbg : Bool) (t : SGal3T ℝ) (h : realEps < t.ang.x * t.ang.x + (t.ang.y * t.ang.y + t.ang.z * t.ang.z))
    (hpi : Real.sqrt (t.ang.x * t.ang.x + (t.ang.y * t.ang.y + t.ang.z * t.ang.z)) ≤ Real.pi)
    (hsw : realEps < Real.sin (1 / 2 * Real.sqrt (t.ang.x * t.ang.x + (t.ang.y * t.ang.y + t.ang.z * t.ang.z))) ^ 2) :
    (SGal3T.exp dbg t).map log = .ok t := by
  have hso : SO3.log ⟨SO3T.expRaw t.asSO3⟩ = t.asSO3 := SO3.log_exp t.asSO3 h hpi hsw
  have hs := SO3.sin_half_ne _ hsw
  rw [exp_ok dbg t h]
  simp only [Except.map, log, asSO3]
  rw [hso, SO3.ljacinv_ljac_apply t.asSO3 h hs t.lin2, V3.add_sub_cancel_right,
    SO3.ljacinv_ljac_apply t.asSO3 h hs t.lin]
  rfl
end SGal3
end Manif
