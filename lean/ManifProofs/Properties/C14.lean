/-
  Properties/C14.lean — the const API under concurrency: what a theorem can carry.

  For EVERY schedule (any list of thread ids, any number of threads, any programs) of the protocol
  state machine of ManifModel/Statics.lean:

    * `done_is_val`      a constructed static holds the value a single-threaded run computes;
    * `reads_are_val`    every value a thread's call reads is that value — so every thread gets the
                         results it would get alone ("same values as in a single thread");
    * `writes_once`      the storage of a static is written at most once, and exactly when it
                         becomes constructed; it is never written afterwards;
    * `no_reentry`       no thread re-enters an initialisation it is running (the undefined
                         behaviour case of [stmt.dcl]/4) — because the "uses" relation is acyclic;
    * `busy_has_owner`   a guard held by thread t means t is running that initialiser (nobody else
                         touches the storage: accesses are ordered by the guard);
    * `progress`         in every reachable state in which some thread has work left, some thread is
                         enabled: no deadlock.

  What ties this to the code, on every run: tools/statics_scan.py regenerates the inventory of
  static-duration objects from /repo (all `const`, initialised at their declaration, no `mutable`,
  no `thread_local`, no namespace-scope mutable object), harness/conc.cpp's guard trace
  regenerates the dependency edges, Generated/Statics.lean is rewritten from both and its
  acyclicity is re-proved by `decide`; the TSan runs look for races the model cannot express (the
  C++ memory model, the compiler's guard implementation, Eigen internals are runtime behaviour).
-/
import ManifModel.Statics
import Mathlib.Tactic.SplitIfs
import Mathlib.Tactic.Linarith

namespace Manif.Statics
variable {V : Type}

def Spec.val (S : Spec V) (c : Cell) : V :=
  S.compute c ((S.deps c).attach.map fun d => S.val d.1)
termination_by S.rank c
decreasing_by exact S.rank_dec c d.1 d.2

theorem Spec.val_eq (S : Spec V) (c : Cell) : S.val c = S.compute c ((S.deps c).map S.val) := by
  rw [Spec.val]
  congr 1
  exact List.attach_map_val (l := S.deps c) (f := S.val)

def FrameOk (S : Spec V) (f : Frame V) : Prop :=
  ∃ pre, pre ++ f.todo = S.deps f.cell ∧ f.env = pre.map S.val

/-- innermost first: each frame is the initialisation of the dependency its caller is waiting for -/
def Chain : List (Frame V) → Prop
  | [] => True
  | [_] => True
  | f :: g :: rest => g.todo.head? = some f.cell ∧ Chain (g :: rest)

def isDone : CState V → Bool
  | .done _ => true
  | _ => false

structure Inv (S : Spec V) (s : State V) : Prop where
  done_val : ∀ c v, s.cells c = .done v → v = S.val c
  frame_busy : ∀ t f, f ∈ (s.thr t).stack → s.cells f.cell = .busy t
  frame_ok : ∀ t f, f ∈ (s.thr t).stack → FrameOk S f
  chain : ∀ t, Chain (s.thr t).stack
  no_err : ∀ t, (s.thr t).err = false
  log_val : ∀ t p, p ∈ (s.thr t).log → p.2 = S.val p.1
  owner : ∀ c t, s.cells c = .busy t → ∃ f ∈ (s.thr t).stack, f.cell = c
  writes_done : ∀ c v, s.cells c = .done v → s.writes c = 1
  writes_not : ∀ c, (∀ v, s.cells c ≠ .done v) → s.writes c = 0

theorem init_thr (progs : List (List Cell)) (t : Tid) :
    ((init progs : State V).thr t).stack = [] ∧ ((init progs : State V).thr t).log = [] ∧
      ((init progs : State V).thr t).err = false := by
  simp only [init]
  split <;> simp [idle]

theorem inv_init (S : Spec V) (progs : List (List Cell)) : Inv S (init progs) where
  done_val := nofun
  frame_busy t _ hf := nomatch (init_thr progs t).1 ▸ hf
  frame_ok t _ hf := nomatch (init_thr progs t).1 ▸ hf
  chain t := (init_thr progs t).1 ▸ trivial
  no_err t := (init_thr progs t).2.2
  log_val t _ hp := nomatch (init_thr progs t).2.1 ▸ hp
  owner := nofun
  writes_done := nofun
  writes_not _ _ := rfl

theorem FrameOk.rank_lt {S : Spec V} {f : Frame V} (hf : FrameOk S f) {d : Cell} (hd : d ∈ f.todo) :
    S.rank d < S.rank f.cell := by
  obtain ⟨pre, hpre, _⟩ := hf
  exact S.rank_dec _ _ (hpre ▸ List.mem_append_right _ hd)

theorem chain_tail {f : Frame V} {rest : List (Frame V)} (h : Chain (f :: rest)) : Chain rest := by
  cases rest with
  | nil => trivial
  | cons g r => exact h.2

theorem chain_rank {S : Spec V} {f : Frame V} {rest : List (Frame V)} (hc : Chain (f :: rest))
    (hok : ∀ g ∈ f :: rest, FrameOk S g) : ∀ g ∈ rest, S.rank f.cell < S.rank g.cell := by
  induction rest generalizing f with
  | nil => intro g hg; cases hg
  | cons b tl ih =>
    have hb : S.rank f.cell < S.rank b.cell :=
      (hok b (by simp)).rank_lt (List.mem_of_mem_head? hc.1)
    intro g hg
    rcases List.mem_cons.mp hg with rfl | hg
    · exact hb
    · exact hb.trans (ih hc.2 (fun g hg => hok g (List.mem_cons_of_mem _ hg)) g hg)

theorem Thread.target_cons {th : Thread V} {f : Frame V} {rest : List (Frame V)} (h : th.stack = f :: rest) :
    th.target = f.todo.head? := by
  simp only [Thread.target, h]

theorem Inv.target_rank_lt {S : Spec V} {s : State V} (h : Inv S s) {t : Tid} {c d : Cell}
    (hc : s.cells c = .busy t) (hd : (s.thr t).target = some d) : S.rank d < S.rank c := by
  obtain ⟨g, hg, rfl⟩ := h.owner c t hc
  obtain ⟨f, rest, hst⟩ := List.exists_cons_of_ne_nil (List.ne_nil_of_mem hg)
  -- `d` is a dependency of the innermost frame `f`, and ranks increase outwards from `f` to `g`
  have hf := (h.frame_ok t f (by simp [hst])).rank_lt (List.mem_of_mem_head? (Thread.target_cons hst ▸ hd))
  rcases List.mem_cons.mp (hst ▸ hg) with rfl | hg
  · exact hf
  · exact hf.trans (chain_rank (hst ▸ h.chain t) (hst ▸ h.frame_ok t) g hg)

theorem upd_same {α} (f : Nat → α) (c : Nat) (a : α) : upd f c a c = a := by simp [upd]
theorem upd_ne {α} (f : Nat → α) (c x : Nat) (a : α) (h : x ≠ c) : upd f c a x = f x := by simp [upd, h]
theorem upd_eq_self {α} {f : Nat → α} {c : Nat} {a : α} (h : f c = a) : upd f c a = f := by
  funext x; unfold upd; split <;> simp [*]

theorem upd_forall {α} {P : Nat → α → Prop} {f : Nat → α} {c : Nat} {a : α} (hf : ∀ x ≠ c, P x (f x))
    (ha : P c a) : ∀ x, P x (upd f c a x) := by
  intro x
  unfold upd
  split
  · next e => exact e ▸ ha
  · next e => exact hf x e

/-- **The frame rule of the invariant.**  Every action replaces the record of the acting thread `t` and the state
    and write count of at most one cell `c`.  `Inv` survives when other threads hold `c` after the action exactly
    if they did before, the new state and write count of `c` agree, and the new record of `t` satisfies the
    per-thread clauses against the new cells. -/
theorem Inv.update {S : Spec V} {s : State V} (h : Inv S s) (t : Tid) (th : Thread V) (c : Cell)
    (cs : CState V) (w : Nat) (hoth : ∀ t' ≠ t, (cs = .busy t' ↔ s.cells c = .busy t'))
    (hval : ∀ v, cs = .done v → v = S.val c ∧ w = 1) (hw : (∀ v, cs ≠ .done v) → w = 0)
    (hbusy : ∀ f ∈ th.stack, upd s.cells c cs f.cell = .busy t) (hok : ∀ f ∈ th.stack, FrameOk S f)
    (hchain : Chain th.stack) (herr : th.err = false) (hlog : ∀ p ∈ th.log, p.2 = S.val p.1)
    (hown : ∀ c', upd s.cells c cs c' = .busy t → ∃ f ∈ th.stack, f.cell = c') :
    Inv S ⟨upd s.cells c cs, upd s.thr t th, upd s.writes c w⟩ := by
  refine ⟨?_, ?_, ?_, ?_, ?_, ?_, fun c' t' => ?_, fun c' v => ?_, fun c' => ?_⟩ <;> dsimp only
  · exact upd_forall (P := fun c (cs : CState V) => ∀ v, cs = .done v → v = S.val c) (fun c' _ => h.done_val c')
      fun v hv => (hval v hv).1
  · refine upd_forall (P := fun t (th : Thread V) => ∀ f ∈ th.stack, upd s.cells c cs f.cell = .busy t)
      (fun t' ht g hg => ?_) hbusy
    exact upd_forall (P := fun c' (cs' : CState V) => s.cells c' = .busy t' → cs' = .busy t') (fun _ _ => id)
      (hoth t' ht).mpr g.cell (h.frame_busy t' g hg)
  · exact upd_forall (P := fun _ (th : Thread V) => ∀ f ∈ th.stack, FrameOk S f) (fun t' _ => h.frame_ok t') hok
  · exact upd_forall (P := fun _ (th : Thread V) => Chain th.stack) (fun t' _ => h.chain t') hchain
  · exact upd_forall (P := fun _ (th : Thread V) => th.err = false) (fun t' _ => h.no_err t') herr
  · exact upd_forall (P := fun _ (th : Thread V) => ∀ p ∈ th.log, p.2 = S.val p.1) (fun t' _ => h.log_val t') hlog
  · refine upd_forall (P := fun t' (th : Thread V) => upd s.cells c cs c' = .busy t' → ∃ f ∈ th.stack, f.cell = c')
      (fun t' ht => ?_) (hown c') t'
    exact upd_forall (P := fun c' (cs : CState V) => cs = .busy t' → ∃ f ∈ (s.thr t').stack, f.cell = c')
      (fun c' _ => h.owner c' t') (fun e => h.owner c t' ((hoth t' ht).mp e)) c'
  · by_cases e : c' = c
    · subst e; rw [upd_same, upd_same]; exact fun hv => (hval v hv).2
    · rw [upd_ne _ _ _ _ e, upd_ne _ _ _ _ e]; exact h.writes_done c' v
  · by_cases e : c' = c
    · subst e; rw [upd_same, upd_same]; exact hw
    · rw [upd_ne _ _ _ _ e, upd_ne _ _ _ _ e]; exact h.writes_not c'

/-- an action that leaves all cells as they are -/
theorem Inv.update_thr {S : Spec V} {s : State V} (h : Inv S s) (t : Tid) (th : Thread V)
    (hbusy : ∀ f ∈ th.stack, s.cells f.cell = .busy t) (hok : ∀ f ∈ th.stack, FrameOk S f)
    (hchain : Chain th.stack) (herr : th.err = false) (hlog : ∀ p ∈ th.log, p.2 = S.val p.1)
    (hown : ∀ c', s.cells c' = .busy t → ∃ f ∈ th.stack, f.cell = c') :
    Inv S { s with thr := upd s.thr t th } := by
  -- `Inv.update` with a dummy cell: cell 0 is given the state and write count it has
  have := h.update t th 0 (s.cells 0) (s.writes 0) (fun _ _ => Iff.rfl)
    (fun v e => ⟨h.done_val 0 v e, h.writes_done 0 v e⟩) (h.writes_not 0)
  rw [upd_eq_self rfl, upd_eq_self rfl] at this
  exact this hbusy hok hchain herr hlog hown

theorem inv_write (S : Spec V) (s : State V) (h : Inv S s) (t : Tid) (f : Frame V) (rest : List (Frame V))
    (hst : (s.thr t).stack = f :: rest) (htodo : f.todo = []) :
    Inv S { cells := upd s.cells f.cell (.done (S.compute f.cell f.env)),
            thr := upd s.thr t { s.thr t with stack := rest },
            writes := upd s.writes f.cell (s.writes f.cell + 1) } := by
  have hmem : ∀ g ∈ rest, g ∈ (s.thr t).stack := fun g hg => hst ▸ List.mem_cons_of_mem _ hg
  have hbusy := h.frame_busy t f (by simp [hst])
  have hne : ∀ g ∈ rest, g.cell ≠ f.cell := fun g hg e =>
    (chain_rank (hst ▸ h.chain t) (hst ▸ h.frame_ok t) g hg).ne' (congrArg S.rank e)
  refine h.update t _ f.cell _ _
    (hoth := fun t' ht => ⟨nofun, fun e => absurd (CState.busy.inj (hbusy.symm.trans e)).symm ht⟩)
    (hval := fun v e => ⟨?_, ?_⟩) (hw := fun e => absurd rfl (e _))
    (hbusy := fun g hg => ?_) (hok := fun g hg => h.frame_ok t g (hmem g hg))
    (hchain := chain_tail (hst ▸ h.chain t)) (herr := h.no_err t) (hlog := h.log_val t)
    (hown := fun c' e => ?_)
  · obtain ⟨pre, hpre, henv⟩ := h.frame_ok t f (by simp [hst])
    rw [htodo, List.append_nil] at hpre
    rw [← CState.done.inj e, S.val_eq, henv, hpre]
  · rw [h.writes_not f.cell fun v hv => nomatch hbusy.symm.trans hv]
  · rw [upd_ne _ _ _ _ (hne g hg)]; exact h.frame_busy t g (hmem g hg)
  · have hc : c' ≠ f.cell := fun hc => by rw [hc, upd_same] at e; cases e
    rw [upd_ne _ _ _ _ hc] at e
    obtain ⟨g, hg, hgc⟩ := h.owner c' t e
    rcases List.mem_cons.mp (hst ▸ hg) with rfl | hg
    · exact absurd hgc.symm hc
    · exact ⟨g, hg, hgc⟩

theorem frameOk_afterRead (S : Spec V) (f : Frame V) (d : Cell) (ds : List Cell) (hf : FrameOk S f)
    (htodo : f.todo = d :: ds) :
    FrameOk S { f with todo := f.todo.tail, env := f.env ++ [S.val d] } := by
  obtain ⟨pre, hpre, henv⟩ := hf
  refine ⟨pre ++ [d], ?_, ?_⟩
  · simp only [htodo, List.tail_cons] at hpre ⊢
    rw [← hpre]; simp
  · simp [henv]

theorem inv_use (S : Spec V) (s : State V) (h : Inv S s) (t : Tid) (d : Cell)
    (hd : (s.thr t).target = some d) : Inv S (useCell S s t d) := by
  unfold useCell
  cases hcell : s.cells d with
  | done v =>
    obtain rfl := h.done_val d v hcell
    cases hst : (s.thr t).stack with
    | nil =>
      simp only [Thread.afterRead, hst]
      refine h.update_thr t _ (hbusy := nofun) (hok := nofun) (hchain := trivial) (herr := h.no_err t)
        (hlog := fun p hp => ?_) (hown := fun c' e => ?_)
      · rcases List.mem_append.mp hp with hp | hp
        · exact h.log_val t p hp
        · obtain rfl := List.mem_singleton.mp hp
          rfl
      · obtain ⟨g, hg, _⟩ := h.owner c' t e
        rw [hst] at hg
        cases hg
    | cons f rest =>
      simp only [Thread.afterRead, hst]
      have hb := List.forall_mem_cons.mp (hst ▸ h.frame_busy t)
      have hok := List.forall_mem_cons.mp (hst ▸ h.frame_ok t)
      obtain ⟨ds, hds⟩ := List.head?_eq_some_iff.mp (Thread.target_cons hst ▸ hd)
      refine h.update_thr t _ (hbusy := List.forall_mem_cons.mpr hb)
        (hok := List.forall_mem_cons.mpr ⟨frameOk_afterRead S f d ds hok.1 hds, hok.2⟩) (hchain := ?_)
        (herr := h.no_err t) (hlog := h.log_val t) (hown := fun c' e => ?_)
      · -- `Chain` looks at the innermost frame only through its cell
        cases rest with
        | nil => trivial
        | cons g r => exact (hst ▸ h.chain t : Chain (f :: g :: r))
      · obtain ⟨g, hg, hgc⟩ := h.owner c' t e
        rcases List.mem_cons.mp (hst ▸ hg) with rfl | hg
        · exact ⟨_, List.mem_cons_self, hgc⟩
        · exact ⟨g, List.mem_cons_of_mem _ hg, hgc⟩
  | uninit =>
    have := h.update t { s.thr t with stack := ⟨d, S.deps d, []⟩ :: (s.thr t).stack } d (.busy t) (s.writes d)
      (hoth := fun t' ht => ⟨fun e => absurd (CState.busy.inj e).symm ht, fun e => nomatch hcell.symm.trans e⟩)
      (hval := nofun) (hw := fun _ => h.writes_not d fun v e => nomatch hcell.symm.trans e)
      (hbusy := List.forall_mem_cons.mpr ⟨upd_same _ _ _, fun g hg => ?_⟩)
      (hok := List.forall_mem_cons.mpr ⟨⟨[], rfl, rfl⟩, h.frame_ok t⟩) (hchain := ?_) (herr := h.no_err t)
      (hlog := h.log_val t) (hown := ?_)
    · rwa [upd_eq_self rfl] at this
    · -- frames already on the stack sit on busy cells, so not on `d`
      exact upd_forall (P := fun c' (cs : CState V) => s.cells c' = .busy t → cs = .busy t) (fun _ _ => id)
        (fun _ => rfl) g.cell (h.frame_busy t g hg)
    · cases hst : (s.thr t).stack with
      | nil => trivial
      | cons f rest => exact ⟨Thread.target_cons hst ▸ hd, hst ▸ h.chain t⟩
    · exact upd_forall (P := fun c' (cs : CState V) => cs = .busy t → ∃ g ∈ _ :: (s.thr t).stack, g.cell = c')
        (fun c' _ e => let ⟨g, hg, hgc⟩ := h.owner c' t e; ⟨g, List.mem_cons_of_mem _ hg, hgc⟩)
        fun _ => ⟨_, List.mem_cons_self, rfl⟩
  | busy t' =>
    dsimp only
    split
    · next e => exact absurd (h.target_rank_lt (e ▸ hcell) hd) (lt_irrefl _)
    · exact h

/-- the three kinds of action: none; use of the target cell; return of the innermost initialiser -/
theorem step_cases {motive : State V → Prop} (S : Spec V) (s : State V) (t : Tid) (idle : motive s)
    (use : ∀ d, (s.thr t).target = some d → motive (useCell S s t d))
    (ret : ∀ f rest, (s.thr t).stack = f :: rest → f.todo = [] →
      motive { cells := upd s.cells f.cell (.done (S.compute f.cell f.env)),
               thr := upd s.thr t { s.thr t with stack := rest },
               writes := upd s.writes f.cell (s.writes f.cell + 1) }) :
    motive (step S s t) := by
  unfold step
  dsimp only
  split
  · next f rest hst =>
    split
    · next hft => exact ret f rest hst hft
    · next d ds hft => exact use d (by simp [Thread.target_cons hst, hft])
  · next hst =>
    split
    · exact idle
    · next c cs hp => exact use c (by simp [Thread.target, hst, hp])

theorem inv_step (S : Spec V) (s : State V) (h : Inv S s) (t : Tid) : Inv S (step S s t) :=
  step_cases S s t h (inv_use S s h t) (inv_write S s h t)

theorem inv_run (S : Spec V) (s : State V) (h : Inv S s) (sched : List Tid) : Inv S (run S s sched) := by
  induction sched generalizing s with
  | nil => exact h
  | cons t ts ih => exact ih _ (inv_step S s h t)

section
variable (S : Spec V) (progs : List (List Cell)) (sched : List Tid)

theorem inv_reach : Inv S (run S (init progs) sched) := inv_run S _ (inv_init S progs) sched

theorem done_is_val (c : Cell) (v : V) (h : (run S (init progs) sched).cells c = .done v) : v = S.val c :=
  (inv_reach S progs sched).done_val c v h

theorem reads_are_val (t : Tid) (p : Cell × V) (h : p ∈ ((run S (init progs) sched).thr t).log) :
    p.2 = S.val p.1 :=
  (inv_reach S progs sched).log_val t p h

theorem writes_once (c : Cell) :
    (∀ v, (run S (init progs) sched).cells c = .done v → (run S (init progs) sched).writes c = 1) ∧
    ((∀ v, (run S (init progs) sched).cells c ≠ .done v) → (run S (init progs) sched).writes c = 0) :=
  ⟨(inv_reach S progs sched).writes_done c, (inv_reach S progs sched).writes_not c⟩

theorem writes_le_one (c : Cell) : (run S (init progs) sched).writes c ≤ 1 := by
  have h := writes_once S progs sched c
  by_cases hd : ∃ v, (run S (init progs) sched).cells c = .done v
  · obtain ⟨v, hv⟩ := hd
    exact (h.1 v hv).le
  · exact (h.2 fun v hv => hd ⟨v, hv⟩).le.trans (Nat.zero_le 1)

theorem no_reentry (t : Tid) : ((run S (init progs) sched).thr t).err = false :=
  (inv_reach S progs sched).no_err t

theorem busy_has_owner (c : Cell) (t : Tid) (h : (run S (init progs) sched).cells c = .busy t) :
    ∃ f ∈ ((run S (init progs) sched).thr t).stack, f.cell = c :=
  (inv_reach S progs sched).owner c t h
end

theorem useCell_done (S : Spec V) (s : State V) (t : Tid) (d c : Cell) (v : V) (hc : s.cells c = .done v) :
    (useCell S s t d).cells c = .done v := by
  unfold useCell
  cases hd : s.cells d with
  | done w => exact hc
  | uninit => exact (upd_ne _ _ _ _ fun e => nomatch (e ▸ hc).symm.trans hd).trans hc
  | busy t' =>
    dsimp only
    split <;> exact hc

/-- once constructed, a cell is never modified again, whatever is scheduled afterwards -/
theorem done_stable (S : Spec V) (s : State V) (h : Inv S s) (c : Cell) (v : V) (hc : s.cells c = .done v)
    (sched : List Tid) : (run S s sched).cells c = .done v := by
  induction sched generalizing s with
  | nil => exact hc
  | cons t ts ih =>
    refine ih (step S s t) (inv_step S s h t) ?_
    refine step_cases (motive := fun s' => s'.cells c = .done v) S s t hc
      (fun d _ => useCell_done S s t d c v hc) fun f rest hst _ => ?_
    have hb := h.frame_busy t f (by simp [hst])
    exact (upd_ne _ _ _ _ fun e => nomatch (e ▸ hb).symm.trans hc).trans hc

theorem enabled_iff (s : State V) (t : Tid) : enabled s t ↔
    (s.thr t).hasWork ∧ ∀ d, (s.thr t).target = some d → ∀ t', s.cells d = .busy t' → t' = t := by
  unfold enabled Thread.hasWork Thread.target
  split
  · next f rest hst => split <;> simp [*]
  · next hst => split <;> simp [*]

theorem blocked_waits (s : State V) (t : Tid) (hw : (s.thr t).hasWork) (hne : ¬ enabled s t) :
    ∃ d t', (s.thr t).target = some d ∧ s.cells d = .busy t' ∧ t' ≠ t := by
  rw [enabled_iff, not_and, not_forall] at hne
  obtain ⟨d, hd⟩ := hne hw
  rw [Classical.not_imp, not_forall] at hd
  obtain ⟨htar, t', ht'⟩ := hd
  exact ⟨d, t', htar, Classical.not_imp.mp ht'⟩

/-- Descent on the rank of a held cell: its owner waits, if at all, for a cell of strictly smaller rank. -/
theorem Inv.enabled_of_busy {S : Spec V} {s : State V} (h : Inv S s) :
    ∀ (n : Nat) (d : Cell) (t : Tid), S.rank d = n → s.cells d = .busy t → ∃ t', enabled s t' := by
  intro n
  induction n using Nat.strong_induction_on with
  | _ n ih =>
    intro d t hn hb
    by_cases he : enabled s t
    · exact ⟨t, he⟩
    obtain ⟨g, hg, _⟩ := h.owner d t hb
    obtain ⟨d', t', hd', hb', _⟩ := blocked_waits s t (Or.inl (List.ne_nil_of_mem hg)) he
    exact ih _ (hn ▸ h.target_rank_lt hb hd') d' t' rfl hb'

theorem progress (S : Spec V) (s : State V) (h : Inv S s) (t : Tid) (hw : (s.thr t).hasWork) :
    ∃ t', enabled s t' := by
  by_cases he : enabled s t
  · exact ⟨t, he⟩
  obtain ⟨d, t', _, hb, _⟩ := blocked_waits s t hw he
  exact h.enabled_of_busy _ d t' rfl hb

theorem no_deadlock (S : Spec V) (progs : List (List Cell)) (sched : List Tid) (t : Tid)
    (hw : ((run S (init progs) sched).thr t).hasWork) : ∃ t', enabled (run S (init progs) sched) t' :=
  progress S _ (inv_reach S progs sched) t hw

/-! ## non-vacuity: a concrete race on first use
  cell 1 (`Identity()::I`, say) uses cell 0 (`Zero()::t`); thread 0 asks for 1, thread 1 for 1 then 0.
  Under an interleaving where thread 0 starts the initialisation of 1 and thread 1 arrives while it
  is in progress (and is blocked), both end with the single-thread values, each cell written once. -/
def demoSpec : Spec Nat where
  deps c := if c = 1 then [0] else []
  rank c := c
  rank_dec c d h := by
    by_cases hc : c = 1
    · subst hc; simp at h; subst h; decide
    · simp [hc] at h
  compute c env := 10 * c + 7 + env.sum

example : demoSpec.val 0 = 7 ∧ demoSpec.val 1 = 24 := by
  constructor <;> simp [Spec.val_eq, demoSpec]

example :
    let s := run demoSpec (init [[1], [1, 0]]) [0, 1, 1, 0, 1, 0, 0, 1, 0, 1, 1, 1, 0, 0]
    (s.thr 0).log = [(1, 24)] ∧ (s.thr 1).log = [(1, 24), (0, 7)] ∧ s.writes 0 = 1 ∧ s.writes 1 = 1 := by
  decide

/-- and a schedule prefix in which thread 1 really is blocked (its steps are no-ops) while thread 0
    holds the guard of cell 1 -/
example :
    let s := run demoSpec (init [[1], [1, 0]]) [0, 1, 1, 1]
    s.cells 1 = .busy 0 ∧ (s.thr 1).log = [] ∧ ¬ enabled s 1 ∧ enabled s 0 := by
  refine ⟨by decide, by decide, ?_, ?_⟩
  · intro h
    have h0 : (0 : Tid) = 1 := h 0 (by decide)
    exact absurd h0 (by decide)
  · intro t' h
    have hc : (run demoSpec (init [[1], [1, 0]]) [0, 1, 1, 1]).cells 0 = CState.uninit := by decide
    rw [hc] at h; cases h

end Manif.Statics
