/-
  Properties/ApiPlanar.lean — SO2 and SE2 at the level of whole API calls (inverse, compose, log, exp with their
  validation and renormalisation branches; no exception raised), from `SO2.okGroup`, `SE2.okGroup` (C01) and
  `Lemmas/OkGroup.lean`.
  Every ordered field with `LawfulTransc`:
    C01  `X.inverse().compose(X) = I = X.compose(X.inverse())`;
    C04  `X ⊕ (Y ⊖ X) = Y`, `X.compose(X.between(Y)) = Y`;
    C15  the SLERP end points `interpolate(A, B, 1) = B`, `interpolate(A, B, 0) = A`;
  over ℝ, `−π < θ ≤ π`:
    C04  `(X ⊕ t) ⊖ X = t` and the left forms `(t ⊕ X) ⊖ₗ X = t`.
  For SE2, wherever `exp ∘ log` or `log ∘ exp` is involved the `(A, B)` pair of the relative element is assumed
  non-degenerate (`hAB`: `A² + B² ≠ 0`).  `SE2.coefAB_small_pos` discharges it in the Taylor branch; in the generic
  branch it says `cos θ ≠ 1`, which is not derived here.
-/
import ManifProofs.Properties.C04
namespace Manif

variable {K : Type} [Field K] [LinearOrder K] [IsStrictOrderedRing K] [Transc K] [LawfulTransc K]
theorem SO2.inverse_compose (dbg : Bool) {X : SO2 K} (hX : SO2.Valid X) :
    (do let i ← SO2.inverse dbg X; SO2.compose dbg i X) = (.ok ⟨1, 0⟩ : Except Err (SO2 K)) :=
  SO2.okGroup.inverse_compose dbg hX

theorem SO2.compose_inverse (dbg : Bool) {X : SO2 K} (hX : SO2.Valid X) :
    (do let i ← SO2.inverse dbg X; SO2.compose dbg X i) = (.ok ⟨1, 0⟩ : Except Err (SO2 K)) :=
  SO2.okGroup.compose_inverse dbg hX

theorem SE2.inverse_compose (dbg : Bool) {X : SE2 K} (hX : SE2.Valid X) :
    (do let i ← SE2.inverse dbg X; SE2.compose dbg i X) = (.ok ⟨0, 0, 1, 0⟩ : Except Err (SE2 K)) :=
  SE2.okGroup.inverse_compose dbg hX

theorem SE2.compose_inverse (dbg : Bool) {X : SE2 K} (hX : SE2.Valid X) :
    (do let i ← SE2.inverse dbg X; SE2.compose dbg X i) = (.ok ⟨0, 0, 1, 0⟩ : Except Err (SE2 K)) :=
  SE2.okGroup.compose_inverse dbg hX

namespace SO2

omit [IsStrictOrderedRing K] [LawfulTransc K] in
theorem tscale_one (d : SO2T K) : (so2Ops (K := K)).tscale d 1 = d := congrArg SO2T.mk (mul_one d.ang)

omit [IsStrictOrderedRing K] [LawfulTransc K] in
theorem tscale_zero (d : SO2T K) : (so2Ops (K := K)).tscale d 0 = ⟨0⟩ := congrArg SO2T.mk (mul_zero d.ang)

/-- **SO2: `X ⊕ (Y ⊖ X) = Y`** exactly (every ordered field with lawful trig), no exception raised. -/
theorem rplus_rminus (dbg : Bool) {X Y : SO2 K} (hX : Valid X) (hY : Valid Y) :
    (do let d ← so2Ops.rminus dbg Y X false false
        let r ← so2Ops.rplus dbg X d.val false false
        pure r.val) = (.ok Y : Except Err (SO2 K)) := by
  have hZ := okGroup.valid_mul (okGroup.valid_inv hX) hY
  rw [okGroup.rplus_rminus dbg hX hY (exp_log dbg hZ) hZ, SO2.mul_inv_cancel_left hX]

/-- **SO2 slerp end points**: `interpolate(A, B, 1) = B` and `interpolate(A, B, 0) = A`, exactly. -/
theorem slerp_one (dbg : Bool) {A B : SO2 K} (hA : Valid A) (hB : Valid B) :
    so2Ops.interpSlerp dbg A B 1 = .ok B :=
  (interpSlerp_one_eq so2Ops dbg A B 1 tscale_one inUnit_one).trans (rplus_rminus dbg hA hB)

theorem slerp_zero (dbg : Bool) {A B : SO2 K} (hA : Valid A) (hB : Valid B) :
    so2Ops.interpSlerp dbg A B 0 = .ok A :=
  okGroup.slerp_zero dbg inUnit_zero hA hB (fun d => (congrArg _ (tscale_zero d)).trans (exp_zero dbg))

/-- **SO2: `X * X.between(Y) = Y`** exactly, as whole API calls. -/
theorem compose_between (dbg : Bool) {X Y : SO2 K} (hX : Valid X) (hY : Valid Y) :
    (do let b ← so2Ops.between dbg X Y false false
        so2Ops.compose dbg X b.val) = (.ok Y : Except Err (SO2 K)) :=
  okGroup.compose_between dbg hX hY

/-- **SO2: `(X ⊕ t) ⊖ X = t`** as whole API calls. -/
theorem rminus_rplus (dbg : Bool) {X : SO2 ℝ} (hX : Valid X) (t : SO2T ℝ) (h1 : -Real.pi < t.ang) (h2 : t.ang ≤ Real.pi) :
    (do let r ← so2Ops.rplus dbg X t false false
        let d ← so2Ops.rminus dbg r.val X false false
        pure d.val) = (.ok t : Except Err (SO2T ℝ)) :=
  (okGroup.rminus_rplus dbg hX (exp_ok dbg t) (expRaw_valid t)).trans (congrArg _ (log_exp t h1 h2))

/-- **SO2: `(t ⊕ X) ⊖ₗ X = t`** (`lplus` then `lminus`) as whole API calls. -/
theorem lminus_lplus (dbg : Bool) {X : SO2 ℝ} (hX : Valid X) (t : SO2T ℝ) (h1 : -Real.pi < t.ang) (h2 : t.ang ≤ Real.pi) :
    (do let r ← so2Ops.lplus dbg X t false false
        let d ← so2Ops.lminus dbg r.val X false false
        pure d.val) = (.ok t : Except Err (SO2T ℝ)) := by
  rw [okGroup.lminus_lplus dbg hX (exp_ok dbg t) (expRaw_valid t), SO2.mul_inv_cancel_right hX]
  exact congrArg _ (log_exp t h1 h2)
end SO2

namespace SE2

/-- `X⁻¹ · Y` on the coefficients -/
def rel (X Y : SE2 K) : SE2 K :=
  ⟨X.re * Y.x - -X.im * Y.y + (-X.x * X.re - X.y * X.im), -X.im * Y.x + X.re * Y.y + (X.x * X.im - X.y * X.re),
    X.re * Y.re - -X.im * Y.im, X.re * Y.im + -X.im * Y.re⟩

omit [IsStrictOrderedRing K] [LawfulTransc K] in
theorem tscale_one (d : SE2T K) : (se2Ops (K := K)).tscale d 1 = d := by
  cases d; simp only [se2Ops, mul_one]

omit [IsStrictOrderedRing K] [LawfulTransc K] in
theorem tscale_zero (d : SE2T K) : (se2Ops (K := K)).tscale d 0 = ⟨0, 0, 0⟩ := by
  simp only [se2Ops, mul_zero]

/-- **SE2: `X ⊕ (Y ⊖ X) = Y`** exactly as whole API calls (no exception raised), for valid operands whose
    relative element has a non-degenerate `(A, B)` pair. -/
theorem rplus_rminus (dbg : Bool) {X Y : SE2 K} (hX : Valid X) (hY : Valid Y)
    (hAB : (SE2T.coefAB (rel X Y).angle (rel X Y).re (rel X Y).im).1 * (SE2T.coefAB (rel X Y).angle (rel X Y).re (rel X Y).im).1 +
      (SE2T.coefAB (rel X Y).angle (rel X Y).re (rel X Y).im).2 * (SE2T.coefAB (rel X Y).angle (rel X Y).re (rel X Y).im).2 ≠ 0) :
    (do let d ← se2Ops.rminus dbg Y X false false
        let r ← se2Ops.rplus dbg X d.val false false
        pure r.val) = (.ok Y : Except Err (SE2 K)) := by
  -- `rel X Y` is `mul (inverseRaw X) Y` written out
  have hZ : Valid (rel X Y) := okGroup.valid_mul (okGroup.valid_inv hX) hY
  rw [okGroup.rplus_rminus dbg hX hY (exp_log dbg hZ hAB) hZ]
  exact congrArg _ (SE2.mul_inv_cancel_left hX Y)

/-- **SE2: `X * X.between(Y) = Y`** exactly, as whole API calls. -/
theorem compose_between (dbg : Bool) {X Y : SE2 K} (hX : Valid X) (hY : Valid Y) :
    (do let b ← se2Ops.between dbg X Y false false
        se2Ops.compose dbg X b.val) = (.ok Y : Except Err (SE2 K)) :=
  okGroup.compose_between dbg hX hY

/-- **SE2 slerp, `t = 1`**: `interpolate(A, B, 1) = B` exactly (non-degenerate `(A,B)` pair of the relative element). -/
theorem slerp_one (dbg : Bool) {A B : SE2 K} (hA : Valid A) (hB : Valid B)
    (hAB : (SE2T.coefAB (rel A B).angle (rel A B).re (rel A B).im).1 * (SE2T.coefAB (rel A B).angle (rel A B).re (rel A B).im).1 +
      (SE2T.coefAB (rel A B).angle (rel A B).re (rel A B).im).2 * (SE2T.coefAB (rel A B).angle (rel A B).re (rel A B).im).2 ≠ 0) :
    se2Ops.interpSlerp dbg A B 1 = .ok B :=
  (interpSlerp_one_eq se2Ops dbg A B 1 tscale_one inUnit_one).trans (rplus_rminus dbg hA hB hAB)

/-- **SE2 slerp, `t = 0`**: `interpolate(A, B, 0) = A` exactly. -/
theorem slerp_zero (dbg : Bool) {A B : SE2 K} (hA : Valid A) (hB : Valid B) :
    se2Ops.interpSlerp dbg A B 0 = .ok A :=
  okGroup.slerp_zero dbg inUnit_zero hA hB (fun d => (congrArg _ (tscale_zero d)).trans (exp_zero dbg))

/-- **SE2: `(X ⊕ t) ⊖ X = t`** as whole API calls. -/
theorem rminus_rplus (dbg : Bool) {X : SE2 ℝ} (hX : Valid X) (t : SE2T ℝ) (h1 : -Real.pi < t.ang) (h2 : t.ang ≤ Real.pi)
    (hAB : (SE2T.coefAB t.ang (Real.cos t.ang) (Real.sin t.ang)).1 * (SE2T.coefAB t.ang (Real.cos t.ang) (Real.sin t.ang)).1 +
      (SE2T.coefAB t.ang (Real.cos t.ang) (Real.sin t.ang)).2 * (SE2T.coefAB t.ang (Real.cos t.ang) (Real.sin t.ang)).2 ≠ 0) :
    (do let r ← se2Ops.rplus dbg X t false false
        let d ← se2Ops.rminus dbg r.val X false false
        pure d.val) = (.ok t : Except Err (SE2T ℝ)) :=
  (okGroup.rminus_rplus dbg hX (exp_ok dbg t) (expRaw_valid t)).trans (congrArg _ (log_exp t h1 h2 hAB))

/-- **SE2: `(t ⊕ X) ⊖ₗ X = t`** (`lplus` then `lminus`) as whole API calls. -/
theorem lminus_lplus (dbg : Bool) {X : SE2 ℝ} (hX : Valid X) (t : SE2T ℝ) (h1 : -Real.pi < t.ang) (h2 : t.ang ≤ Real.pi)
    (hAB : (SE2T.coefAB t.ang (Real.cos t.ang) (Real.sin t.ang)).1 * (SE2T.coefAB t.ang (Real.cos t.ang) (Real.sin t.ang)).1 +
      (SE2T.coefAB t.ang (Real.cos t.ang) (Real.sin t.ang)).2 * (SE2T.coefAB t.ang (Real.cos t.ang) (Real.sin t.ang)).2 ≠ 0) :
    (do let r ← se2Ops.lplus dbg X t false false
        let d ← se2Ops.lminus dbg r.val X false false
        pure d.val) = (.ok t : Except Err (SE2T ℝ)) := by
  rw [okGroup.lminus_lplus dbg hX (exp_ok dbg t) (expRaw_valid t), SE2.mul_inv_cancel_right hX]
  exact congrArg _ (log_exp t h1 h2 hAB)
end SE2
end Manif
