/-
  C05 — every analytic Jacobian is the true derivative on the tangent space.
  Stated with first-order dual numbers over an arbitrary ordered field (`Dual K`, `ε² = 0`): for an
  operation `f` with reported right-Jacobian `J`,
        f (X ⊞ ε d)  =  f (X) ⊞ ε (J d)            (exactly, as dual-number elements)
  where `X ⊞ ε d = X · exp(ε d)` and `exp(ε d)` is what the model's own `exp` returns on a purely
  infinitesimal tangent (`pert_eq_exp`, `pertQ_eq_exp`).
    * SE2: the statements are about the model's `composeRaw`, `inverseRaw`, `act` run at `Dual K`, and its
      `adj`, `composeJb`, `inverseJ`, `actJm`, `actJv`.
    * SO3: the statements are about the kernels `Quat.mul`, `Quat.conj`, `Quat.toRot`, `M3.mulVec` arranged as
      `SO3.composeRaw` (without its renormalisation branch), `inverseRaw` and `act` arrange them, with the
      Jacobians `R_Yᵀ`, `I`, `−R`, `R` written out; the model's functions of those names are not mentioned.

  Both groups go the same way: the group law is associative, and `exp(ε d)` moves past a group
  element at the price of the Adjoint (`pert_comm`, `half_comm`); the Jacobians of compose and
  inverse are then rewrites.
-/
import ManifProofs.Lemmas.DualLemmas
import ManifProofs.Properties.C01
import ManifProofs.Properties.C12

namespace Manif
variable {K : Type} [Field K] [LinearOrder K] [IsStrictOrderedRing K] [Transc K] [LawfulTransc K]

namespace SE2

def lift (X : SE2 K) : SE2 (Dual K) := ⟨.lift X.x, .lift X.y, .lift X.re, .lift X.im⟩

/-- the group element `exp(ε d)` to first order -/
def pert (d : SE2T K) : SE2 (Dual K) := ⟨⟨0, d.x⟩, ⟨0, d.y⟩, ⟨1, 0⟩, ⟨0, d.ang⟩⟩

attribute [ext] SE2

/-- the model's `exp`, run on an infinitesimal tangent, is `pert d`. -/
theorem pert_eq_exp (d : SE2T K) :
    SE2T.expRaw (⟨⟨0, d.x⟩, ⟨0, d.y⟩, ⟨0, d.ang⟩⟩ : SE2T (Dual K)) = pert d := by
  have he : (0 : K) < Transc.eps := LawfulTransc.eps_pos
  unfold SE2T.expRaw SE2T.coefAB pert
  simp only [dual_lt, dual_mul_re, mul_zero, dual_eps_re, he, decide_true, if_true]
  ext <;> simp [LawfulTransc.sin_zero, LawfulTransc.cos_zero]

theorem valid_pert (d : SE2T K) : Valid (pert d).vre := okGroup.valid_one

/-- on operands with valid value parts (dual parts arbitrary) the renormalisation branch of `compose` is not
    taken: the squared norm is `1 + 0ε`. -/
theorem composeRaw_eq_dual {A B : SE2 (Dual K)} (hA : Valid A.vre) (hB : Valid B.vre) :
    composeRaw A B = mul A B := by
  have hn : ((A.re * B.re - A.im * B.im) * (A.re * B.re - A.im * B.im) +
      (A.re * B.im + A.im * B.re) * (A.re * B.im + A.im * B.re)).re = 1 := unit_mul_unit hA hB
  unfold composeRaw
  simp only [dual_gt, dual_abs_re, dual_sub_re, dual_nat_re, Nat.cast_one, dual_eps_re, hn, sub_self,
    abs_zero, eps_not_neg, decide_false, if_false, Bool.false_eq_true]
  rfl

omit [IsStrictOrderedRing K] [LawfulTransc K] in
theorem valid_mul_dual {A B : SE2 (Dual K)} (hA : Valid A.vre) (hB : Valid B.vre) : Valid (mul A B).vre :=
  unit_mul_unit hA hB

omit [IsStrictOrderedRing K] [LawfulTransc K] in
theorem mul_assoc_dual (A B C : SE2 (Dual K)) : mul (mul A B) C = mul A (mul B C) := by
  ext <;>
    simp only [mul, dual_proj] <;>
    ring1

omit [LawfulTransc K] in
/-- `exp(ε d) · Y = Y · exp(ε Ad(Y⁻¹) d)`.  Only the two translation derivatives need `|Y| = 1`. -/
theorem pert_comm (Y : SE2 K) (hY : Valid Y) (d : SE2T K) :
    mul (pert d) (lift Y) =
      mul (lift Y) (let v := (adj (inverseRaw Y)).mulVec ⟨d.x, d.y, d.ang⟩; pert ⟨v.x, v.y, v.z⟩) := by
  unfold Valid at hY
  refine SE2.ext (Dual.ext ?_ ?_) (Dual.ext ?_ ?_) (Dual.ext ?_ ?_) (Dual.ext ?_ ?_) <;>
    simp only [mul, pert, lift, adj, inverseRaw, M3.mulVec, sum3, dual_proj, scalar_nat, Nat.cast_zero, Nat.cast_one]
  · ring1
  · linear_combination (-(d.x - d.ang * Y.y)) * hY
  · ring1
  · linear_combination (-(d.y + d.ang * Y.x)) * hY
  · ring1
  · ring1
  · ring1
  · ring1

/-- **compose, w.r.t. the first argument**: `J_mc_ma = Adj(Y⁻¹)`. -/
theorem compose_Ja (X Y : SE2 K) (hX : Valid X) (hY : Valid Y) (d : SE2T K) :
    composeRaw (composeRaw (lift X) (pert d)) (lift Y) =
      composeRaw (composeRaw (lift X) (lift Y))
        (let v := (adj (inverseRaw Y)).mulVec ⟨d.x, d.y, d.ang⟩; pert ⟨v.x, v.y, v.z⟩) := by
  have hX' : Valid (lift X).vre := hX
  have hY' : Valid (lift Y).vre := hY
  rw [composeRaw_eq_dual hX' (valid_pert d), composeRaw_eq_dual (valid_mul_dual hX' (valid_pert d)) hY',
    composeRaw_eq_dual hX' hY', composeRaw_eq_dual (valid_mul_dual hX' hY') (valid_pert _),
    mul_assoc_dual, mul_assoc_dual, pert_comm Y hY]

/-- **compose, w.r.t. the second argument**: `J_mc_mb = I` (associativity). -/
theorem compose_Jb (X Y : SE2 K) (hX : Valid X) (hY : Valid Y) (d : SE2T K) :
    composeRaw (lift X) (composeRaw (lift Y) (pert d)) =
      composeRaw (composeRaw (lift X) (lift Y))
        (let v := (composeJb X Y).mulVec ⟨d.x, d.y, d.ang⟩; pert ⟨v.x, v.y, v.z⟩) := by
  have hX' : Valid (lift X).vre := hX
  have hY' : Valid (lift Y).vre := hY
  have e : (let v := (composeJb X Y).mulVec ⟨d.x, d.y, d.ang⟩; pert ⟨v.x, v.y, v.z⟩) = pert d := by
    simp only [composeJb, M3.one_mulVec]
  rw [e, composeRaw_eq_dual hY' (valid_pert d), composeRaw_eq_dual hX' (valid_mul_dual hY' (valid_pert d)),
    composeRaw_eq_dual hX' hY', composeRaw_eq_dual (valid_mul_dual hX' hY') (valid_pert d), mul_assoc_dual]

/-- **inverse**: `J_minv_m = -Adj(X)`:  `(X ⊞ εd)⁻¹ = X⁻¹ ⊞ ε(-Adj(X) d)`. -/
theorem inverse_J (X : SE2 K) (hX : Valid X) (d : SE2T K) :
    inverseRaw (composeRaw (lift X) (pert d)) =
      composeRaw (inverseRaw (lift X))
        (let v := (inverseJ X).mulVec ⟨d.x, d.y, d.ang⟩; pert ⟨v.x, v.y, v.z⟩) := by
  have hX' : Valid (lift X).vre := hX
  rw [composeRaw_eq_dual hX' (valid_pert d), composeRaw_eq_dual (A := inverseRaw (lift X)) (valid_inverseRaw hX') (valid_pert _)]
  ext <;>
    simp only [mul, pert, lift, inverseRaw, inverseJ, adj, M3.neg, M3.map, M3.mulVec, sum3, dual_proj, scalar_nat,
      Nat.cast_zero, Nat.cast_one] <;>
    ring1

/-- **act, w.r.t. the element** (`J_vout_m = [R | R·(skew(1) v)]`) and **w.r.t. the point**
    (`J_vout_v = R`): the dual part of `act` is the Jacobian applied to the perturbation. -/
theorem act_Jm (X : SE2 K) (hX : Valid X) (v : V2 K) (d : SE2T K) :
    (act (composeRaw (lift X) (pert d)) ⟨.lift v.x, .lift v.y⟩) =
      ⟨⟨(act X v).x, ((actJm X v).getD 0 0) * d.x + ((actJm X v).getD 1 0) * d.y + ((actJm X v).getD 2 0) * d.ang⟩,
       ⟨(act X v).y, ((actJm X v).getD 3 0) * d.x + ((actJm X v).getD 4 0) * d.y + ((actJm X v).getD 5 0) * d.ang⟩⟩ := by
  rw [composeRaw_eq_dual (A := lift X) hX (valid_pert d)]
  ext <;>
    simp [mul, act, actJm, translation, rotation, V2.add, M2.mulVec, M2.skew, lift, pert] <;> ring1

theorem act_Jv (X : SE2 K) (v w : V2 K) :
    (act (lift X) ⟨⟨v.x, w.x⟩, ⟨v.y, w.y⟩⟩) =
      ⟨⟨(act X v).x, ((actJv X v).mulVec w).x⟩, ⟨(act X v).y, ((actJv X v).mulVec w).y⟩⟩ := by
  ext <;> simp [act, actJv, translation, rotation, V2.add, M2.mulVec, lift]

end SE2

namespace SO3

theorem pertQ_eq_exp (d : V3 K) :
    SO3T.expRaw (⟨⟨⟨0, d.x⟩, ⟨0, d.y⟩, ⟨0, d.z⟩⟩⟩ : SO3T (Dual K)) = pertQ d := by
  unfold SO3T.expRaw pertQ
  simp only [dual_gt, V3.sqNorm, sum3, dual_add_re, dual_mul_re, mul_zero, add_zero, dual_eps_re, eps_not_neg,
    decide_false, if_false, Bool.false_eq_true]
  ext <;> simp <;> ring

/-! Both sides split into `Quat.dual (value) (ε-part)`; the ε-parts agree by associativity in `Quat K` and
  `half_comm`. -/

/-- **compose, first argument**: `(X ⊞ εd)·Y = (X·Y) ⊞ ε(R_Yᵀ d)` — `J_mc_ma = R_Yᵀ` (the formula of
    `SO3.composeJa`, written out). -/
theorem compose_Ja (p q : Quat K) (hq : q.sqn = 1) (d : V3 K) :
    ((liftQ p).mul (pertQ d)).mul (liftQ q) =
      ((liftQ p).mul (liftQ q)).mul (pertQ (q.toRot.transpose.mulVec d)) := by
  rw [liftQ_mul_pertQ, dual_mul_liftQ, liftQ_mul, liftQ_mul_pertQ, Quat.mul_assoc p, half_comm q hq,
    Quat.mul_assoc]

/-- **compose, second argument**: `J_mc_mb = I` (associativity of the quaternion product). -/
theorem compose_Jb (p q : Quat K) (d : V3 K) :
    (liftQ p).mul ((liftQ q).mul (pertQ d)) = ((liftQ p).mul (liftQ q)).mul (pertQ d) := by
  rw [liftQ_mul_pertQ, liftQ_mul_dual, liftQ_mul, liftQ_mul_pertQ, Quat.mul_assoc]

/-- **inverse**: `(X ⊞ εd)⁻¹ = X⁻¹ ⊞ ε(-R d)` — `J_minv_m = -R` (the formula of `SO3.inverseJ`, written out). -/
theorem inverse_J (q : Quat K) (hq : q.sqn = 1) (d : V3 K) :
    ((liftQ q).mul (pertQ d)).conj = (liftQ q).conj.mul (pertQ (q.toRot.neg.mulVec d)) := by
  rw [liftQ_mul_pertQ, Quat.dual_conj, Quat.conj_mul_rev, half_conj, liftQ_conj, liftQ_mul_pertQ,
    half_comm _ (Quat.conj_unit q hq), Quat.toRot_conj q hq, M3.transpose_transpose, M3.mulVec_neg,
    M3.neg_mulVec]

/-- **act, w.r.t. the point**: the dual part of `R (v + εw)` is `R w` (`J_vout_v = R`). -/
theorem act_Jv (q : Quat K) (v w : V3 K) :
    (liftQ q).toRot.mulVec ⟨⟨v.x, w.x⟩, ⟨v.y, w.y⟩, ⟨v.z, w.z⟩⟩ =
      ⟨⟨(q.toRot.mulVec v).x, (q.toRot.mulVec w).x⟩, ⟨(q.toRot.mulVec v).y, (q.toRot.mulVec w).y⟩,
       ⟨(q.toRot.mulVec v).z, (q.toRot.mulVec w).z⟩⟩ := by
  rw [liftQ_toRot]
  exact (M3.dual_mulVec _ _ v w).trans (by rw [M3.zero_mulVec, V3.add_zero]; rfl)

end SO3

end Manif
