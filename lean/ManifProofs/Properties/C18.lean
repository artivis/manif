/-
  C18 — approximate equality is a well-behaved tolerance relation (exact-arithmetic part).
  Over every ordered field with a lawful `sqrt`:
    * tangents: `isApprox` is reflexive and symmetric; against the zero tangent it is the absolute
      component-wise test, hence true well below and false well above `eps`;
    * groups, SO3 only: `X.isApprox(X, eps)` (so also `X == X`) is true for every valid `X` and `eps ≥ 0`:
      `X⁻¹·X` is exactly the identity quaternion, its `log` is exactly zero, and the tangent test is reflexive.
      (In floating point `X⁻¹·X` is the identity only up to rounding — KF-C18-1 is about that, for SGal(3);
      reflexivity for large coordinates is measured (L2).)
-/
import ManifProofs.Lemmas.Tree
import ManifProofs.Properties.C01
import ManifProofs.Inst.Rat
import Mathlib.Tactic.Positivity

namespace Manif
variable {K : Type} [Field K] [LinearOrder K] [IsStrictOrderedRing K] [Transc K] [LawfulTransc K]

theorem LawfulTransc.sqrt_zero : Transc.sqrt (0 : K) = 0 :=
  mul_self_eq_zero.mp (LawfulTransc.sqrt_mul_self (0 : K) le_rfl)

section
omit [LinearOrder K] [IsStrictOrderedRing K] [Transc K] [LawfulTransc K]

theorem zipSub_swap (a b : List K) :
    List.zipWith (· - ·) a b = (List.zipWith (· - ·) b a).map Neg.neg := by
  rw [List.zipWith_comm, List.map_zipWith]
  simp only [neg_sub]

theorem zipSub_zeros (t : List K) : List.zipWith (· - ·) t (List.replicate t.length (0 : K)) = t := by
  induction t with
  | nil => rfl
  | cons x xs ih => simp [List.replicate_succ, ih]
end

omit [LawfulTransc K] in
theorem tanIsApprox_refl (a : List K) (eps : K) (h : 0 ≤ eps) : tanIsApprox a a eps = true := by
  have hz : ∀ x ∈ List.zipWith (· - ·) a a, x = 0 := by
    simp only [List.zipWith_self, List.mem_map, sub_self]
    rintro x ⟨_, _, rfl⟩
    rfl
  unfold tanIsApprox
  split
  · rw [List.all_eq_true]
    intro x hx
    simpa [hz x hx] using h
  · rw [sqNormFlat_eq_zero hz]
    simp only [scalar_le, decide_eq_true_eq, scalar_min_eq, min_self]
    exact mul_nonneg (mul_nonneg h h) (sqNormFlat_nonneg a)

theorem tanIsApprox_symm (a b : List K) (eps : K) : tanIsApprox a b eps = tanIsApprox b a eps := by
  unfold tanIsApprox
  simp only [scalar_min_eq, min_comm (Scalar.sqrt (sqNormFlat b)), min_comm (sqNormFlat b), zipSub_swap b a,
    sqNormFlat_neg, List.all_map, Function.comp_def, scalar_abs, abs_neg]

/-- with a zero argument the test is the **absolute, component-wise** one. -/
theorem tanIsApprox_zero (t : List K) (eps : K) (h : 0 < eps) :
    tanIsApprox t (List.replicate t.length 0) eps = true ↔ ∀ x ∈ t, |x| ≤ eps := by
  unfold tanIsApprox
  have hz : Scalar.sqrt (sqNormFlat (List.replicate t.length (0 : K))) = 0 := by
    rw [sqNormFlat_eq_zero fun x hx => List.eq_of_mem_replicate hx]; exact LawfulTransc.sqrt_zero
  have hmin : min (Scalar.sqrt (sqNormFlat t)) 0 < eps :=
    lt_of_le_of_lt (min_le_right _ _) h
  simp only [scalar_min_eq, hz, scalar_lt, hmin, decide_true, if_true, List.all_eq_true,
    scalar_le, scalar_abs, scalar_nat, Nat.cast_one, abs_one, one_mul, decide_eq_true_eq]
  rw [zipSub_zeros t]

-- "well below" and "well above" the threshold, as the property words them: a factor 100 either way
theorem tanIsApprox_zero_below (t : List K) (eps : K) (h : 0 < eps) (hb : ∀ x ∈ t, |x| ≤ eps / 100) :
    tanIsApprox t (List.replicate t.length 0) eps = true :=
  (tanIsApprox_zero t eps h).mpr fun x hx => (hb x hx).trans (by linarith)

theorem tanIsApprox_zero_above (t : List K) (eps : K) (h : 0 < eps) (x : K) (hx : x ∈ t)
    (ha : 100 * eps ≤ |x|) : tanIsApprox t (List.replicate t.length 0) eps = false := by
  rw [Bool.eq_false_iff, Ne, tanIsApprox_zero t eps h]
  intro hall
  have := hall x hx
  linarith

namespace SO3

theorem log_one : log (⟨⟨0, 0, 0, 1⟩⟩ : SO3 K) = ⟨⟨0, 0, 0⟩⟩ := by
  simp [log, Quat.vec, V3.sqNorm, sum3, V3.muls, eps_not_neg]

/-- **SO3: `X.isApprox(X, eps)` (and `X == X`) is true**, exactly, for every valid `X` and `eps ≥ 0`. -/
theorem isApprox_refl (dbg : Bool) {X : SO3 K} (hX : Valid X) (eps : K) (h : 0 ≤ eps) :
    (so3Ops.rminus dbg X X false false).map
        (fun d => tanIsApprox (so3Codec.tTo d.val) (so3Codec.tTo (so3Ops (K := K)).tzero) eps) = .ok true := by
  rw [okGroup.rminus_ok dbg hX hX, okGroup.inv_mul_self hX]
  have e : so3Codec.tTo (so3Ops (K := K)).tzero = so3Codec.tTo (log (one : SO3 K)) := by
    rw [one, log_one]; simp [so3Ops, so3Codec, SO3T.toList, V3.toList, V3.zero]
  rw [e]
  exact congrArg Except.ok (tanIsApprox_refl _ eps h)
end SO3

example : tanIsApprox ([1, 2] : List ℚ) [1, 2] (1 / 1000) = true := by decide +kernel

end Manif
