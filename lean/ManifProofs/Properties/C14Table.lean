/-
  Properties/C14Table.lean — the protocol theorems of C14.lean instantiated at the table of lazily
  initialised statics that tools/conc.py regenerates from the current /repo on every check
  (ManifModel/Generated/Statics.lean).  What has to hold of the *code* for the theorems to apply is
  exactly what is re-checked here by the kernel on the regenerated table:

    * `table_acyclic`      the observed "initialiser of c uses d" relation strictly decreases the
                           translator's rank — no initialisation cycle (so no re-entry, no deadlock);
    * `inventory_clean`    the scanner found no static-duration object that is not const /
                           initialised at its declaration, no `mutable`, no `thread_local`.
-/
import ManifProofs.Properties.C14
import ManifModel.Generated.Statics
import ManifProofs.Lemmas.Except

namespace Manif.Statics
open Generated

def tableDeps (c : Cell) : List Cell := (depsTable.lookup c).getD []
def tableRank (c : Cell) : Nat := rankTable.getD c 0

theorem table_acyclic : ∀ p ∈ depsTable, ∀ d ∈ p.2, tableRank d < tableRank p.1 := by
  decide

theorem inventory_clean : inventoryProblems = 0 := by decide

theorem ranks_cover : rankTable.length = cellNames.length := by decide

/-- the code's statics as a `Spec` (values abstract: any deterministic initialisers). -/
def codeSpec {V : Type} (compute : Cell → List V → V) : Spec V where
  deps := tableDeps
  rank := tableRank
  rank_dec := by
    intro c d hd
    unfold tableDeps at hd
    cases hl : depsTable.lookup c with
    | none => simp [hl] at hd
    | some ds =>
      simp [hl] at hd
      exact table_acyclic (c, ds) (lookup_mem hl) d hd
  compute := compute

/-- C14 for the statics of the current source tree: for every number of threads, every program
    of const API calls and every schedule — each read returns the single-thread value, each
    static is written at most once, nobody re-enters an initialiser, and there is no deadlock. -/
theorem code_statics_safe {V : Type} (compute : Cell → List V → V) (progs : List (List Cell))
    (sched : List Tid) :
    (∀ t p, p ∈ ((run (codeSpec compute) (init progs) sched).thr t).log → p.2 = (codeSpec compute).val p.1) ∧
    (∀ c, (run (codeSpec compute) (init progs) sched).writes c ≤ 1) ∧
    (∀ t, ((run (codeSpec compute) (init progs) sched).thr t).err = false) ∧
    (∀ t, ((run (codeSpec compute) (init progs) sched).thr t).hasWork →
      ∃ t', enabled (run (codeSpec compute) (init progs) sched) t') :=
  ⟨reads_are_val _ progs sched, writes_le_one _ progs sched, no_reentry _ progs sched,
   no_deadlock _ progs sched⟩

end Manif.Statics
