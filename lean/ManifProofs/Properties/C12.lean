/-
  Properties/C12.lean — generic in the scalar: the dual-number instantiation is *value
  transparent*.

  For every scalar instance `K` (no field laws are used: the statements hold verbatim for the
  executable `Float` and `Float32` instances as well as for ℝ and ℚ) and each operation `f` listed
  below, running the same model code over `Dual K` and keeping the value parts gives exactly what
  `f` gives on the value parts:

        re (f x) = f (re x)              — for ALL dual inputs, whatever their infinitesimal parts.

  Covered: `composeRaw`, `inverseRaw`, `expRaw`, `log`, `act` of SO2, SE2, SO3, SE3 (SO2 and SO3 also `make`, the
  unit-norm check, and `rotation`; SE2 also `adj`; SO3 also `ljac`, `ljacinv`), and the checked calls `compose`,
  `inverse`, `exp`, with `act` and `log`, of SE_2(3) and SGal(3) (`fillE` included).  No other Jacobian member, no
  algorithm.

  In particular every branch (small-angle switch, quaternion hemisphere, renormalisation,
  validity check and hence the raised exception) is decided identically.  Together with the
  dual-part theorems of Properties/C05.lean (`f (X ⊞ εd) = f X ⊞ ε(J d)`) this is the model-side
  content of C12; the implementation side (manif over a Jet scalar, the ceres functors through
  raw pointers, the float instantiation vs the `Float32` model) is tied by tools/jets.py.
-/
import ManifModel

namespace Manif
variable {K : Type} [Scalar K]

section
open Scalar

namespace Dual
@[simp] theorem re_add (a b : Dual K) : (a + b).re = a.re + b.re := rfl
@[simp] theorem re_sub (a b : Dual K) : (a - b).re = a.re - b.re := rfl
@[simp] theorem re_mul (a b : Dual K) : (a * b).re = a.re * b.re := rfl
@[simp] theorem re_div (a b : Dual K) : (a / b).re = a.re / b.re := rfl
@[simp] theorem re_neg (a : Dual K) : (-a).re = -a.re := rfl
@[simp] theorem re_ofNat (n : Nat) : (Scalar.ofNat n : Dual K).re = Scalar.ofNat n := rfl
@[simp] theorem re_nat (n : Nat) : (nat n : Dual K).re = nat n := rfl
@[simp] theorem re_rat (n d : Nat) : (rat n d : Dual K).re = rat n d := rfl
@[simp] theorem re_sin (a : Dual K) : (Scalar.sin a).re = Scalar.sin a.re := rfl
@[simp] theorem re_cos (a : Dual K) : (Scalar.cos a).re = Scalar.cos a.re := rfl
@[simp] theorem re_sinUnq (a : Dual K) : (Scalar.sinUnq a).re = Scalar.sinUnq a.re := rfl
@[simp] theorem re_cosUnq (a : Dual K) : (Scalar.cosUnq a).re = Scalar.cosUnq a.re := rfl
@[simp] theorem re_sqrt (a : Dual K) : (Scalar.sqrt a).re = Scalar.sqrt a.re := rfl
@[simp] theorem re_atan2 (a b : Dual K) : (Scalar.atan2 a b).re = Scalar.atan2 a.re b.re := rfl
@[simp] theorem re_abs (a : Dual K) : (Scalar.abs a).re = Scalar.abs a.re := rfl
@[simp] theorem re_eps : (Scalar.eps : Dual K).re = Scalar.eps := rfl
@[simp] theorem re_so3LogJCoeff (a b : Dual K) :
    (Scalar.so3LogJCoeff a b).re = Scalar.so3LogJCoeff a.re b.re := rfl
@[simp] theorem lt_re (a b : Dual K) : Scalar.lt a b = Scalar.lt a.re b.re := rfl
@[simp] theorem le_re (a b : Dual K) : Scalar.le a b = Scalar.le a.re b.re := rfl
@[simp] theorem gt_re (a b : Dual K) : Scalar.gt a b = Scalar.gt a.re b.re := rfl
@[simp] theorem re_min (a b : Dual K) : (Scalar.min a b).re = Scalar.min a.re b.re :=
  apply_ite Dual.re _ _ _
@[simp] theorem re_max (a b : Dual K) : (Scalar.max a b).re = Scalar.max a.re b.re :=
  apply_ite Dual.re _ _ _
@[simp] theorem re_ite (c : Prop) [Decidable c] (a b : Dual K) :
    (if c then a else b).re = if c then a.re else b.re := apply_ite Dual.re c a b
@[simp] theorem re_lift (a : K) : (Dual.lift a).re = a := rfl
end Dual

-- value parts: `re` for the containers, `vre` for group elements (`SO2.re`, `SE2.re` are fields)
def V2.re (v : V2 (Dual K)) : V2 K := ⟨v.x.re, v.y.re⟩
def V3.re (v : V3 (Dual K)) : V3 K := ⟨v.x.re, v.y.re, v.z.re⟩
def Quat.re (q : Quat (Dual K)) : Quat K := ⟨q.x.re, q.y.re, q.z.re, q.w.re⟩
def M2.re (m : M2 (Dual K)) : M2 K := ⟨m.a00.re, m.a01.re, m.a10.re, m.a11.re⟩
def M3.re (m : M3 (Dual K)) : M3 K :=
  ⟨m.a00.re, m.a01.re, m.a02.re, m.a10.re, m.a11.re, m.a12.re, m.a20.re, m.a21.re, m.a22.re⟩
def SO2.vre (X : SO2 (Dual K)) : SO2 K := ⟨X.re.re, X.im.re⟩
def SO2T.vre (t : SO2T (Dual K)) : SO2T K := ⟨t.ang.re⟩
def SE2.vre (X : SE2 (Dual K)) : SE2 K := ⟨X.x.re, X.y.re, X.re.re, X.im.re⟩
def SE2T.vre (t : SE2T (Dual K)) : SE2T K := ⟨t.x.re, t.y.re, t.ang.re⟩
def SO3.vre (X : SO3 (Dual K)) : SO3 K := ⟨X.q.re⟩
def SO3T.vre (t : SO3T (Dual K)) : SO3T K := ⟨t.v.re⟩

/-- value part of a possibly-raising result: the exception is kept. -/
def exRe {A B : Type} (f : A → B) : Except Err A → Except Err B
  | .ok a => .ok (f a)
  | .error e => .error e

/-! ### the two principles
  A branch predicate over `Dual K` *is* (definitionally) the predicate on the value parts, so the value part of an
  `if` is the `if` of the value parts (`apply_ite`) and what remains is `rfl`.  `exRe` commutes with the `Except`
  monad's bind (`exRe_bind`), so a checked API call is transparent when its parts are. -/

theorem exRe_bind {A B A' B' : Type} {f : A → A'} {g : B → B'} {x : Except Err A} {x' : Except Err A'}
    {k : A → Except Err B} {k' : A' → Except Err B'}
    (hx : exRe f x = x') (hk : ∀ a, exRe g (k a) = k' (f a)) : exRe g (x >>= k) = x' >>= k' := by
  subst hx
  cases x with
  | error e => rfl
  | ok a => exact hk a

theorem checkUnit_re (dbg : Bool) (n : Dual K) : checkUnit dbg n = checkUnit dbg n.re := rfl

/-- every raw-coefficient constructor: check the norm, then build -/
theorem exRe_checkUnit {A B : Type} (f : A → B) (dbg : Bool) (n : Dual K) (a : A) :
    exRe f (checkUnit dbg n >>= fun _ => pure a) = (checkUnit dbg n.re >>= fun _ => pure (f a)) := by
  rw [checkUnit_re]
  cases checkUnit dbg n.re <;> rfl

theorem approxSqrtInv_re (a : Dual K) : (approxSqrtInv a).re = approxSqrtInv a.re := rfl

theorem M3.mulVec_re (A : M3 (Dual K)) (v : V3 (Dual K)) : (A.mulVec v).re = A.re.mulVec v.re := rfl
theorem V3.add_re (u v : V3 (Dual K)) : (u.add v).re = u.re.add v.re := rfl
theorem V3.sub_re (u v : V3 (Dual K)) : (u.sub v).re = u.re.sub v.re := rfl
theorem V3.smul_re (c : Dual K) (v : V3 (Dual K)) : (V3.smul c v).re = V3.smul c.re v.re := rfl

namespace SO2
theorem make_re (dbg : Bool) (a b : Dual K) : exRe vre (make dbg a b) = make dbg a.re b.re :=
  exRe_checkUnit vre dbg (V2.mk a b).norm ⟨a, b⟩

theorem composeRaw_re (X Y : SO2 (Dual K)) : (composeRaw X Y).vre = composeRaw X.vre Y.vre :=
  apply_ite vre _ _ _

theorem inverseRaw_re (X : SO2 (Dual K)) : (inverseRaw X).vre = inverseRaw X.vre := rfl
theorem log_re (X : SO2 (Dual K)) : (log X).vre = log X.vre := rfl
theorem act_re (X : SO2 (Dual K)) (v : V2 (Dual K)) : (act X v).re = act X.vre v.re := rfl
theorem rotation_re (X : SO2 (Dual K)) : (rotation X).re = rotation X.vre := rfl
end SO2
theorem SO2T.expRaw_re (t : SO2T (Dual K)) : (SO2T.expRaw t).vre = SO2T.expRaw t.vre := rfl

namespace SE2
theorem composeRaw_re (X Y : SE2 (Dual K)) : (composeRaw X Y).vre = composeRaw X.vre Y.vre := by
  unfold composeRaw vre
  simp only [apply_ite Prod.fst, apply_ite Prod.snd, Dual.re_ite]
  rfl

theorem inverseRaw_re (X : SE2 (Dual K)) : (inverseRaw X).vre = inverseRaw X.vre := rfl
theorem act_re (X : SE2 (Dual K)) (v : V2 (Dual K)) : (act X v).re = act X.vre v.re := rfl
theorem adj_re (X : SE2 (Dual K)) : (adj X).re = adj X.vre := rfl
end SE2

namespace SE2T
theorem coefAB_re (a b c : Dual K) :
    ((coefAB a b c).1.re, (coefAB a b c).2.re) = coefAB a.re b.re c.re := by
  unfold coefAB
  simp only [Dual.lt_re, Dual.re_mul, Dual.re_eps]
  split <;> rfl

theorem expRaw_re (t : SE2T (Dual K)) : (expRaw t).vre = expRaw t.vre := by
  have h := coefAB_re t.ang (Scalar.cos t.ang) (Scalar.sin t.ang)
  simp only [Dual.re_cos, Dual.re_sin, Prod.ext_iff] at h
  unfold expRaw SE2.vre SE2T.vre
  simp only [Dual.re_sub, Dual.re_add, Dual.re_mul, Dual.re_cos, Dual.re_sin, h.1, h.2]
end SE2T

theorem SE2.log_re (X : SE2 (Dual K)) : (SE2.log X).vre = SE2.log X.vre := by
  have h := SE2T.coefAB_re (SE2.angle X) X.re X.im
  simp only [Prod.ext_iff] at h
  unfold SE2.log SE2T.vre SE2.vre
  simp only [SE2.angle] at h ⊢
  simp only [Dual.re_add, Dual.re_mul, Dual.re_div, Dual.re_atan2, Dual.re_neg, Dual.re_nat, h.1, h.2]

theorem V3.sqNorm_re (v : V3 (Dual K)) : (V3.sqNorm v).re = V3.sqNorm v.re := rfl
theorem Quat.sqNorm_re (q : Quat (Dual K)) : (Quat.sqNorm q).re = Quat.sqNorm q.re := rfl
theorem Quat.mul_re (p q : Quat (Dual K)) : (Quat.mul p q).re = Quat.mul p.re q.re := rfl

theorem V3.normalized_re (v : V3 (Dual K)) : (V3.normalized v).re = V3.normalized v.re :=
  apply_ite V3.re _ _ _

theorem Quat.normalized_re (q : Quat (Dual K)) : (Quat.normalized q).re = Quat.normalized q.re :=
  apply_ite Quat.re _ _ _

theorem Quat.ofAngleAxis_re (a : Dual K) (v : V3 (Dual K)) :
    (Quat.ofAngleAxis a v).re = Quat.ofAngleAxis a.re v.re := rfl

namespace SO3T
theorem expRaw_re (t : SO3T (Dual K)) : (expRaw t).re = expRaw t.vre :=
  (apply_ite Quat.re _ _ _).trans (by rw [Quat.ofAngleAxis_re, V3.normalized_re]; rfl)

theorem ljac_re (t : SO3T (Dual K)) : (ljac t).re = ljac t.vre := apply_ite M3.re _ _ _

theorem ljacinv_re (t : SO3T (Dual K)) : (ljacinv t).re = ljacinv t.vre := apply_ite M3.re _ _ _
end SO3T

namespace SO3
theorem composeRaw_re (X Y : SO3 (Dual K)) : (composeRaw X Y).re = composeRaw X.vre Y.vre :=
  apply_ite Quat.re _ _ _

theorem inverseRaw_re (X : SO3 (Dual K)) : (inverseRaw X).re = inverseRaw X.vre := rfl
theorem rotation_re (X : SO3 (Dual K)) : (rotation X).re = rotation X.vre := rfl
theorem act_re (X : SO3 (Dual K)) (v : V3 (Dual K)) : (act X v).re = act X.vre v.re := rfl

theorem log_re (X : SO3 (Dual K)) : (log X).vre = log X.vre := by
  unfold log SO3T.vre
  simp only [V3.muls, V3.re, Dual.re_mul, Dual.re_div, Dual.re_neg, Dual.re_nat, Dual.re_atan2, Dual.re_sqrt,
    Dual.re_ite]
  rfl

theorem make_re (dbg : Bool) (q : Quat (Dual K)) : exRe vre (make dbg q) = make dbg q.re :=
  exRe_checkUnit vre dbg q.norm ⟨q⟩
end SO3

def SE3.vre (X : SE3 (Dual K)) : SE3 K := ⟨X.t.re, X.q.re⟩
def SE3T.vre (t : SE3T (Dual K)) : SE3T K := ⟨t.lin.re, t.ang.re⟩

namespace SE3T
theorem expRaw_re (t : SE3T (Dual K)) :
    ((expRaw t).1.re, (expRaw t).2.re) = expRaw t.vre :=
  Prod.ext (congrArg (fun J : M3 K => J.mulVec t.lin.re) (SO3T.ljac_re t.asSO3)) (SO3T.expRaw_re t.asSO3)
end SE3T

namespace SE3
theorem composeRaw_re (X Y : SE3 (Dual K)) :
    ((composeRaw X Y).1.re, (composeRaw X Y).2.re) = composeRaw X.vre Y.vre :=
  Prod.ext rfl (SO3.composeRaw_re X.asSO3 Y.asSO3)
theorem inverseRaw_re (X : SE3 (Dual K)) :
    ((inverseRaw X).1.re, (inverseRaw X).2.re) = inverseRaw X.vre := rfl
theorem act_re (X : SE3 (Dual K)) (v : V3 (Dual K)) : (act X v).re = act X.vre v.re := rfl
theorem log_re (X : SE3 (Dual K)) : (log X).vre = log X.vre := by
  have h : X.asSO3.log.vre = X.vre.asSO3.log := SO3.log_re X.asSO3
  unfold log SE3T.vre
  simp only [M3.mulVec_re, SO3T.ljacinv_re, h]
  exact congrArg (SE3T.mk _) (congrArg SO3T.v h)
end SE3

end

def SE23.vre (X : SE23 (Dual K)) : SE23 K := ⟨X.t.re, X.q.re, X.v.re⟩
def SE23T.vre (t : SE23T (Dual K)) : SE23T K := ⟨t.lin.re, t.ang.re, t.lin2.re⟩
def SGal3.vre (X : SGal3 (Dual K)) : SGal3 K := ⟨X.p.re, X.q.re, X.v.re, X.t.re⟩
def SGal3T.vre (t : SGal3T (Dual K)) : SGal3T K := ⟨t.lin.re, t.lin2.re, t.ang.re, t.t.re⟩

namespace SO3T
theorem exp_re (dbg : Bool) (t : SO3T (Dual K)) : exRe SO3.vre (exp dbg t) = exp dbg t.vre := by
  unfold exp
  rw [SO3.make_re, expRaw_re]
end SO3T

namespace SO3
theorem compose_re (dbg : Bool) (X Y : SO3 (Dual K)) : exRe vre (compose dbg X Y) = compose dbg X.vre Y.vre := by
  unfold compose
  rw [make_re, composeRaw_re]
theorem inverse_re (dbg : Bool) (X : SO3 (Dual K)) : exRe vre (inverse dbg X) = inverse dbg X.vre := by
  unfold inverse
  rw [make_re]
  rfl
end SO3

namespace SE23
theorem make_re (dbg : Bool) (t : V3 (Dual K)) (q : Quat (Dual K)) (v : V3 (Dual K)) :
    exRe vre (make dbg t q v) = make dbg t.re q.re v.re :=
  exRe_checkUnit vre dbg q.norm ⟨t, q, v⟩

theorem compose_re (dbg : Bool) (X Y : SE23 (Dual K)) : exRe vre (compose dbg X Y) = compose dbg X.vre Y.vre :=
  exRe_bind (SO3.compose_re dbg X.asSO3 Y.asSO3) fun _ => make_re dbg _ _ _

theorem inverse_re (dbg : Bool) (X : SE23 (Dual K)) : exRe vre (inverse dbg X) = inverse dbg X.vre :=
  exRe_bind (SO3.inverse_re dbg X.asSO3) fun _ => make_re dbg _ _ _

theorem act_re (X : SE23 (Dual K)) (p : V3 (Dual K)) : (act X p).re = act X.vre p.re := rfl

theorem log_re (X : SE23 (Dual K)) : (log X).vre = log X.vre := by
  have h : X.asSO3.log.vre = X.vre.asSO3.log := SO3.log_re X.asSO3
  unfold log SE23T.vre
  simp only [M3.mulVec_re, SO3T.ljacinv_re, h]
  exact congrArg (fun v => SE23T.mk _ v _) (congrArg SO3T.v h)
end SE23

namespace SE23T
theorem exp_re (dbg : Bool) (t : SE23T (Dual K)) : exRe SE23.vre (exp dbg t) = exp dbg t.vre :=
  exRe_bind (SO3T.exp_re dbg t.asSO3) fun _ => by
    rw [SE23.make_re, M3.mulVec_re, M3.mulVec_re, SO3T.ljac_re]
    rfl
end SE23T

namespace SGal3T
theorem fillE_re (t : SO3T (Dual K)) : (fillE t).re = fillE t.vre := apply_ite M3.re _ _ _
end SGal3T

namespace SGal3
theorem make_re (dbg : Bool) (p : V3 (Dual K)) (q : Quat (Dual K)) (v : V3 (Dual K)) (s : Dual K) :
    exRe vre (make dbg p q v s) = make dbg p.re q.re v.re s.re :=
  exRe_checkUnit vre dbg q.norm ⟨p, q, v, s⟩

theorem compose_re (dbg : Bool) (X Y : SGal3 (Dual K)) : exRe vre (compose dbg X Y) = compose dbg X.vre Y.vre :=
  exRe_bind (SO3.compose_re dbg X.asSO3 Y.asSO3) fun _ => make_re dbg _ _ _ _

theorem inverse_re (dbg : Bool) (X : SGal3 (Dual K)) : exRe vre (inverse dbg X) = inverse dbg X.vre :=
  exRe_bind (SO3.inverse_re dbg X.asSO3) fun _ => make_re dbg _ _ _ _

theorem act_re (X : SGal3 (Dual K)) (p : V3 (Dual K)) : (act X p).re = act X.vre p.re := rfl

theorem log_re (X : SGal3 (Dual K)) : (log X).vre = log X.vre := by
  have h : X.asSO3.log.vre = X.vre.asSO3.log := SO3.log_re X.asSO3
  unfold log SGal3T.vre
  simp only [M3.mulVec_re, V3.sub_re, V3.smul_re, SO3T.ljacinv_re, SGal3T.fillE_re, h]
  exact congrArg (fun v => SGal3T.mk _ _ v _) (congrArg SO3T.v h)
end SGal3

namespace SGal3T
theorem exp_re (dbg : Bool) (t : SGal3T (Dual K)) : exRe SGal3.vre (exp dbg t) = exp dbg t.vre :=
  exRe_bind (SO3T.exp_re dbg t.asSO3) fun _ => by
    rw [SGal3.make_re]
    simp only [V3.add_re, M3.mulVec_re, V3.smul_re, SO3T.ljac_re, fillE_re]
    rfl
end SGal3T
end Manif
