/-
  Properties/C05b.lean — C05, the Jacobian of `exp` is the derivative (dual numbers, exact identities):
      exp(t + εd) = exp(t) ⊞ ε (Jr(t) d)          on the closed-form branch,
  where `Jr` is the model's `rjac` (transcribed from the code, small-angle switch and half-angle
  forms included) and the left-hand side is the model's own `exp` evaluated at `Dual K`.
    * SE2: every ordered field with lawful sin/cos (only sin²+cos² = 1 is used);
    * SO3: over ℝ (needs the double-angle formulas to relate `sin θ` in `Jr` to the half-angle
      quaternion).  Both sides are written in the frame `d`, `t`, `t × d`: the left by running `exp` on
      the dual point (`expRaw_dual`), the right by pure algebra for any coefficients of `Jr`
      (`mul_half_rjac`); the coefficients agree by three identities in `sin θ/2`, `cos θ/2`.
-/
import ManifProofs.Properties.C05
import ManifProofs.Properties.C06
import ManifProofs.Properties.C02

namespace Manif
variable {K : Type} [Field K] [LinearOrder K] [IsStrictOrderedRing K] [Transc K] [LawfulTransc K]
namespace SE2

/-- **exp**: `exp(t + εd) = exp(t) ⊞ ε(Jr(t) d)` on the closed-form branch — the analytic right
    Jacobian of `exp` (= `rjac`) is the derivative. -/
theorem exp_J (t d : SE2T K) (h : ¬ t.ang * t.ang * (t.ang * t.ang) < Transc.eps) (hθ : t.ang ≠ 0) :
    SE2T.expRaw (⟨⟨t.x, d.x⟩, ⟨t.y, d.y⟩, ⟨t.ang, d.ang⟩⟩ : SE2T (Dual K)) =
      composeRaw (lift (SE2T.expRaw t))
        (let v := (SE2T.rjac t).mulVec ⟨d.x, d.y, d.ang⟩; pert ⟨v.x, v.y, v.z⟩) := by
  have hsc := LawfulTransc.sin_sq_add_cos_sq t.ang
  have hv : Valid (lift (SE2T.expRaw t)).vre := expRaw_valid t
  rw [composeRaw_eq_dual hv (valid_pert _), SE2T.rjac_generic t h]
  -- unfold `exp` once, for all eight components
  simp only [SE2T.expRaw, SE2T.coefAB, dual_lt, dual_mul_re, dual_eps_re, scalar_lt, scalar_eps, h, decide_false,
    Bool.false_eq_true, if_false, mul, lift, pert, M3.mulVec, sum3]
  obtain ⟨x, y, θ⟩ := t
  simp only at hsc hθ ⊢
  refine SE2.ext (Dual.ext ?_ ?_) (Dual.ext ?_ ?_) (Dual.ext ?_ ?_) (Dual.ext ?_ ?_) <;>
    simp only [dual_proj, scalar_sin, scalar_cos, scalar_nat, Nat.cast_one] <;>
    field_simp
  · ring1
  · linear_combination (θ * d.y - d.ang * y) * hsc
  · ring1
  · linear_combination (d.ang * x - θ * d.x) * hsc
  · ring1
  · ring1
  · ring1
  · ring1
end SE2

namespace SO3

-- pure algebra: under the order and `LawfulTransc` instances of the file, elaborating `mul_half_rjac` takes minutes
section
omit [IsStrictOrderedRing K] [LawfulTransc K]

def ofVS (v : V3 K) (w : K) : Quat K := ⟨v.x, v.y, v.z, w⟩

/-- `(s t, c) · ½ (I + a W + b W²)ᵀ d` with `W = [t]×`, in the frame `d`, `t`, `t × d`: pure algebra, every
    `a b s c` -/
theorem mul_half_rjac (t d : V3 K) (a b s c : K) :
    (ofVS (t.smul s) c).mul (half ((((M3.one.add (M3.smul a (M3.skew t))).add
        ((M3.smul b (M3.skew t)).mul (M3.skew t))).transpose).mulVec d)) =
      ofVS (((d.smul (c / 2 * (1 - b * t.sqNorm) + s / 2 * a * t.sqNorm)).add
          (t.smul (t.dot d * (c / 2 * b - s / 2 * a)))).add
          (((M3.skew t).mulVec d).smul (s / 2 * (1 - b * t.sqNorm) - c / 2 * a)))
        (-(s / 2 * t.dot d)) := by
  ext <;> msimp [ofVS, Quat.mul, half, M3.one, M3.add, M3.zip, M3.smul, M3.map, M3.mul, M3.skew, M3.transpose,
    M3.mulVec, V3.smul, V3.add, V3.sqNorm, V3.dot] <;> ring1

/-- two quaternions given in the frame `d`, `t`, `e` agree when their coefficients do (that of `e` being zero) -/
theorem frame_congr (d t e : V3 K) {A Γ B w A' Γ' w' : K} (hA : A = A') (hΓ : Γ = Γ') (hB : B = 0) (hw : w = w') :
    ofVS (((d.smul A).add (t.smul Γ)).add (e.smul B)) w = ofVS ((d.smul A').add (t.smul Γ')) w' := by
  subst hA hΓ hB hw
  ext <;> simp only [ofVS, V3.add, V3.smul, zero_mul, add_zero]
end

theorem dual_sqrt_re (a : Dual ℝ) : (Scalar.sqrt a).re = Real.sqrt a.re := rfl

/-- `exp` at `t + εd` on the closed-form branch: with `θ = |t|`, `S = sin θ/2`, `C = cos θ/2`, `τ = ⟨t,d⟩`,
    the value is `(S/θ t, C)` and the derivative `(S/θ d + τ (C/(2θ²) − S/θ³) t, −S τ/(2θ))`.
    `θ S C` are variables tied by equations (the caller gives `rfl`) so that the eight `field_simp <;> ring1` goals see
    three atoms instead of nested `√`, `sin`, `cos` terms. -/
theorem expRaw_dual (t d : V3 ℝ) (h : realEps < t.x * t.x + (t.y * t.y + t.z * t.z)) (θ S C : ℝ)
    (hθ : Real.sqrt (t.x * t.x + (t.y * t.y + t.z * t.z)) = θ) (hS : Real.sin (1 / 2 * θ) = S)
    (hC : Real.cos (1 / 2 * θ) = C) :
    SO3T.expRaw (⟨V3.dual t d⟩ : SO3T (Dual ℝ)) =
      Quat.dual (ofVS (t.smul (S / θ)) C)
        (ofVS ((d.smul (S / θ)).add (t.smul (t.dot d * (C / (2 * θ ^ 2) - S / θ ^ 3)))) (-(S / 2 * (t.dot d / θ)))) := by
  have hp : 0 < t.x * t.x + (t.y * t.y + t.z * t.z) := lt_trans realEps_pos h
  have hθ0 : θ ≠ 0 := hθ ▸ (Real.sqrt_pos.mpr hp).ne'
  simp only [SO3T.expRaw, V3.sqNorm, sum3, Quat.ofAngleAxis, V3.normalized, V3.divs, V3.dual, dual_gt, dual_add_re,
    dual_mul_re, dual_eps_re, dual_nat_re, transc_eps_real, Nat.cast_zero, h, hp, decide_true, if_true]
  ext <;>
    simp only [Quat.dual, ofVS, V3.smul, V3.add, V3.dot, sum3, dual_proj, dual_sqrt_re, dual_sqrt_du,
      transc_sqrt_real, transc_sin_real, transc_cos_real, Nat.cast_one, Nat.cast_ofNat, hθ, hS, hC] <;>
    field_simp <;> ring1

/-- **SO3 exp**: `exp(t + εd) = exp(t) ⊞ ε(Jr(t) d)` on the closed-form branch — the analytic right
    Jacobian `rjac` of the model (half-angle form) is the derivative of `exp`. -/
theorem exp_J (t d : SO3T ℝ) (h : realEps < t.v.x * t.v.x + (t.v.y * t.v.y + t.v.z * t.v.z)) :
    SO3T.expRaw (⟨⟨⟨t.v.x, d.v.x⟩, ⟨t.v.y, d.v.y⟩, ⟨t.v.z, d.v.z⟩⟩⟩ : SO3T (Dual ℝ)) =
      (liftQ (SO3T.expRaw t)).mul (pertQ ((SO3T.rjac t).mulVec d.v)) := by
  obtain ⟨t⟩ := t
  obtain ⟨d⟩ := d
  simp only at h ⊢
  obtain ⟨hθpos, hθ2⟩ := sqrt_pos_sq h
  have hnle : ¬ t.x * t.x + (t.y * t.y + t.z * t.z) ≤ realEps := not_le.mpr h
  have hq : SO3T.expRaw ⟨t⟩ = ofVS (t.smul (Real.sin (1 / 2 * Real.sqrt (t.x * t.x + (t.y * t.y + t.z * t.z))) /
      Real.sqrt (t.x * t.x + (t.y * t.y + t.z * t.z))))
        (Real.cos (1 / 2 * Real.sqrt (t.x * t.x + (t.y * t.y + t.z * t.z)))) := by
    rw [expRaw_polar ⟨t⟩ hθpos hθ2 (hθ2.symm ▸ h)]
    ext <;> simp only [ofVS, V3.smul] <;> ring1
  -- left: `exp` at the dual point; right: `q · ½ Jr d`; both in the frame `d`, `t`, `t × d`
  rw [show (⟨⟨⟨t.x, d.x⟩, ⟨t.y, d.y⟩, ⟨t.z, d.z⟩⟩⟩ : SO3T (Dual ℝ)) = ⟨V3.dual t d⟩ from rfl,
    expRaw_dual t d h _ _ _ rfl rfl rfl, liftQ_mul_pertQ, hq]
  simp only [SO3T.rjac, SO3T.ljac, SO3T.hat, scalar_le, scalar_eps, transc_eps_real, V3.sqNorm, sum3, hnle, decide_false,
    Bool.false_eq_true, if_false]
  rw [mul_half_rjac]
  congr 1
  symm
  simp only [scalar_sqrt, transc_sqrt_real, scalar_sin, transc_sin_real, scalar_nat, Nat.cast_ofNat, V3.sqNorm, sum3]
  generalize Real.sqrt (t.x * t.x + (t.y * t.y + t.z * t.z)) = θ at hθpos hθ2 ⊢
  rw [← hθ2]
  have hθ : θ ≠ 0 := hθpos.ne'
  have hsc := Real.sin_sq_add_cos_sq (1 / 2 * θ)
  rw [sin_eq_half θ, show θ / 2 = 1 / 2 * θ by ring]
  generalize Real.sin (1 / 2 * θ) = S at hsc ⊢
  generalize Real.cos (1 / 2 * θ) = C at hsc ⊢
  refine frame_congr _ _ _ ?_ ?_ ?_ ?_
  · field_simp; linear_combination (2 * S) * hsc
  · field_simp; linear_combination (-2 * S * t.dot d) * hsc
  · field_simp; ring1
  · field_simp
end SO3
end Manif
