/-
  C13 — construction, accessors and validation (exact-arithmetic part, every ordered field with
  a lawful sqrt):
    * with assertions enabled the constructor check, hence `SO3(q)`, accepts exactly the data with
      `| ‖rot‖ - 1 | < eps`; with NDEBUG the SO3, SE3, SO2, SE2 constructors never reject;
    * `normalize()` makes any non-degenerate quaternion valid;
    * `rotation()` of a valid element has determinant +1 (SO3) and is orthonormal with determinant +1 (SE2).
-/
import ManifProofs.Properties.C01
import ManifProofs.Inst.Real

namespace Manif
open Matrix

variable {K : Type} [Field K] [LinearOrder K] [IsStrictOrderedRing K] [Transc K] [LawfulTransc K]

omit [IsStrictOrderedRing K] [LawfulTransc K] in
theorem checkUnit_iff (n : K) : checkUnit true n = .ok () ↔ |n - 1| < Transc.eps := by
  unfold checkUnit
  by_cases h : |n - 1| < Transc.eps <;> simp [h]

omit [IsStrictOrderedRing K] [LawfulTransc K] in
theorem checkUnit_ndebug (n : K) : checkUnit false n = .ok () := by
  simp [checkUnit]

theorem SO3.make_iff (q : Quat K) : (∃ X, SO3.make true q = .ok X) ↔ |q.norm - 1| < Transc.eps := by
  rw [← checkUnit_iff, SO3.make]
  cases checkUnit true q.norm with
  | error e => exact ⟨nofun, nofun⟩
  | ok u => exact ⟨fun _ => rfl, fun _ => ⟨_, rfl⟩⟩

theorem SO3.make_ndebug (q : Quat K) : SO3.make false q = .ok ⟨q⟩ := by
  rw [SO3.make, checkUnit_ndebug]
  rfl

theorem SE3.make_ndebug (t : V3 K) (q : Quat K) : SE3.make false t q = .ok ⟨t, q⟩ := by
  rw [SE3.make, checkUnit_ndebug]
  rfl

theorem SO2.make_ndebug (a b : K) : SO2.make false a b = .ok ⟨a, b⟩ := by
  rw [SO2.make, checkUnit_ndebug]
  rfl

theorem SE2.make_ndebug (x y a b : K) : SE2.make false x y a b = .ok ⟨x, y, a, b⟩ := by
  rw [SE2.make, checkUnit_ndebug]
  rfl

/-- **`normalize()` makes any non-degenerate quaternion valid.** -/
theorem Quat.normalized_valid (q : Quat K) (h : 0 < q.sqn) : q.normalized.sqn = 1 := by
  have hs := LawfulTransc.sqrt_mul_self q.sqn h.le
  unfold Quat.normalized
  simp only [Quat.sqNorm_eq, scalar_gt, scalar_nat, Nat.cast_zero, h, decide_true, if_true, scalar_sqrt]
  -- every coordinate is divided by `√‖q‖²`, so the squared norm is divided by `‖q‖²`
  simp only [Quat.sqn, div_mul_div_comm, ← add_div] at hs ⊢
  rw [hs]
  exact div_self h.ne'

/-- **det rotation() = +1** on valid elements. -/
theorem SO3.rotation_det_one (X : SO3 K) (hX : SO3.Valid X) :
    let R := X.rotation
    R.a00 * (R.a11 * R.a22 - R.a12 * R.a21) - R.a01 * (R.a10 * R.a22 - R.a12 * R.a20)
      + R.a02 * (R.a10 * R.a21 - R.a11 * R.a20) = 1 := by
  simp only [SO3.rotation, Quat.toRot_eq_rotH _ hX]
  rw [Quat.det_rotH X.q, show X.q.sqn = 1 from hX, one_pow]

/-- SE2: `rotation()` of a valid element is orthonormal with determinant one. -/
theorem SE2.rotation_orthonormal (X : SE2 K) (hX : SE2.Valid X) :
    X.rotation.mul ⟨X.rotation.a00, X.rotation.a10, X.rotation.a01, X.rotation.a11⟩ = M2.one ∧
    X.rotation.a00 * X.rotation.a11 - X.rotation.a01 * X.rotation.a10 = 1 := by
  unfold SE2.Valid at hX
  constructor
  · simp only [SE2.rotation, M2.mul, M2.one, scalar_nat, Nat.cast_one, Nat.cast_zero]
    congr 1
    · linear_combination hX
    · ring
    · ring
    · linear_combination hX
  · simp only [SE2.rotation]; linear_combination hX

example : SO3.make true (⟨2/5, 2/5, 4/5, -1/5⟩ : Quat ℝ) = .ok ⟨⟨2/5, 2/5, 4/5, -1/5⟩⟩ := by
  have h : SO3.Valid (⟨⟨2/5, 2/5, 4/5, -1/5⟩⟩ : SO3 ℝ) := by norm_num [SO3.Valid, Quat.sqn]
  exact SO3.make_ok true h

end Manif
