/-
  C10 — views over external memory behave exactly like owning objects (model part).
  For every buffer, offset and length (no bound):
    * a write through a view changes exactly the viewed window (`write_frame`), keeps the buffer
      length, and reading the window back returns what was written (`read_write`);
    * a mutating member applied through a view equals the member applied to an owning copy of the
      window, placed back in the window (`viewApply_read`), and leaves everything else untouched
      (`viewApply_frame`);
    * copy / cross-kind assignment through a view preserves coefficients exactly (`assign_exact`).
  The byte-level behaviour of Eigen::Map (alignment, vectorised loads) is runtime: the harness
  places every view at an odd offset between guard zones and the checks compare owning / Map /
  Map<const> answers bit for bit (purity.py).
-/
import ManifModel.Mem
import Mathlib.Tactic.Ring
import Mathlib.Data.List.Basic

namespace Manif.Mem
variable {K : Type}

theorem writeView_length (b : List K) (off : Nat) (v : List K) (h : off + v.length ≤ b.length) :
    (writeView b off v).length = b.length := by
  simp [writeView]
  omega

theorem write_frame (b : List K) (off : Nat) (v : List K) (h : off + v.length ≤ b.length) (i : Nat)
    (hi : i < off ∨ off + v.length ≤ i) : (writeView b off v)[i]? = b[i]? := by
  have hl : (b.take off).length = off := by rw [List.length_take]; omega
  rw [writeView, List.append_assoc, List.getElem?_append, hl, List.getElem?_append, List.getElem?_drop,
    List.getElem?_take]
  rcases hi with hi | hi
  · rw [if_pos hi, if_pos hi]
  · rw [if_neg (by omega), if_neg (by omega)]
    congr 1
    omega

theorem read_write (b : List K) (off : Nat) (v : List K) (h : off + v.length ≤ b.length) :
    readView (writeView b off v) off v.length = v := by
  have hl : (b.take off).length = off := by rw [List.length_take]; omega
  rw [readView, writeView, List.append_assoc, List.drop_left' hl, List.take_left' rfl]

theorem assign_exact (b : List K) (off : Nat) (src : List K) (h : off + src.length ≤ b.length) :
    readView (writeView b off src) off src.length = src := read_write b off src h

theorem readView_length (b : List K) (off len : Nat) (h : off + len ≤ b.length) :
    (readView b off len).length = len := by
  rw [readView, List.length_take, List.length_drop]
  omega

theorem viewApply_read (f : List K → List K) (b : List K) (off len : Nat)
    (hf : ∀ l, (f l).length = l.length) (h : off + len ≤ b.length) :
    readView (viewApply f b off len) off len = f (readView b off len) := by
  have := read_write b off (f (readView b off len)) (by rwa [hf, readView_length b off len h])
  rwa [hf, readView_length b off len h] at this

theorem viewApply_frame (f : List K → List K) (b : List K) (off len : Nat)
    (hf : ∀ l, (f l).length = l.length) (h : off + len ≤ b.length) (i : Nat)
    (hi : i < off ∨ off + len ≤ i) : (viewApply f b off len)[i]? = b[i]? :=
  write_frame b off _ (by rwa [hf, readView_length b off len h]) i (by rwa [hf, readView_length b off len h])

example : viewApply (fun l => l.map (· + 1)) [9, 9, 9, 1, 2, 9, 9] 3 2 = [9, 9, 9, 2, 3, 9, 9] := by decide

end Manif.Mem
