/-
  C08 (continued) — SO3, SE3, SE_2(3), SGal(3), SE2: unit-norm validity is an invariant of EVERY history of
  compose / inverse steps, of any length, and under it the constructor check never fires.
  Same recurrence as SO2 (`renormDev_invariant`): the quaternion product multiplies squared norms; the groups
  with translation parts run SO3's `compose` / `inverse` and then their own constructor check on the same
  quaternion, so their steps succeed by the bind rule (`Except.bind_ok_of`).
-/
import ManifProofs.Properties.C08
import ManifProofs.Lemmas.Quat
import ManifProofs.Inst.Real

namespace Manif
variable {K : Type} [Field K] [LinearOrder K] [IsStrictOrderedRing K] [Transc K] [LawfulTransc K]

namespace SO3
def dev (q : Quat K) : K := q.sqn - 1
def Near (X : SO3 K) : Prop := |dev X.q| ≤ Transc.eps

omit [IsStrictOrderedRing K] [LawfulTransc K] in
theorem dev_composeRaw (X Y : SO3 K) :
    dev (composeRaw X Y) = renormDev (dev X.q + dev Y.q + dev X.q * dev Y.q) := by
  rw [show dev X.q + dev Y.q + dev X.q * dev Y.q = (X.q.mul Y.q).sqn - 1 by rw [Quat.sqn_mul]; unfold dev; ring,
    ← renormDev_sub_one]
  unfold composeRaw dev
  simp only [Quat.sqNorm_eq]
  split_ifs
  · rw [Quat.sqn_scale]
  · rfl

theorem near_composeRaw (he : (Transc.eps : K) ≤ 1 / 10) {X Y : SO3 K} (hX : Near X) (hY : Near Y) :
    Near ⟨composeRaw X Y⟩ := by
  unfold Near
  rw [dev_composeRaw]
  exact renormDev_invariant _ _ he hX hY

omit [IsStrictOrderedRing K] [LawfulTransc K] in
theorem near_inverse {X : SO3 K} (hX : Near X) : Near ⟨X.q.conj⟩ := by
  unfold Near dev at *
  rw [Quat.sqn_conj]; exact hX

theorem checkUnit_ok_of_near (dbg : Bool) {q : Quat K} (h : Near ⟨q⟩) : checkUnit dbg q.norm = .ok () := by
  rw [Quat.norm, Quat.sqNorm_eq]
  exact checkUnit_sqrt_ok dbg h

theorem make_ok_of_near (dbg : Bool) {q : Quat K} (h : Near ⟨q⟩) : make dbg q = .ok ⟨q⟩ := by
  rw [make, checkUnit_ok_of_near dbg h]
  rfl

theorem compose_near (he : (Transc.eps : K) ≤ 1 / 10) (dbg : Bool) {X Y : SO3 K} (hX : Near X) (hY : Near Y) :
    ∃ Z, compose dbg X Y = .ok Z ∧ Near Z :=
  have hZ := near_composeRaw he hX hY
  ⟨_, make_ok_of_near dbg hZ, hZ⟩

theorem inverse_near (dbg : Bool) {X : SO3 K} (hX : Near X) : ∃ Z, inverse dbg X = .ok Z ∧ Near Z :=
  have hZ := near_inverse hX
  ⟨_, make_ok_of_near dbg hZ, hZ⟩

inductive Step where
  | compose (i j dst : ℕ)
  | inverse (i dst : ℕ)

def step (dbg : Bool) (pool : List (SO3 K)) : Step → Except Err (List (SO3 K))
  | .compose i j dst =>
    match pool[i]?, pool[j]? with
    | some X, some Y => (compose dbg X Y).map fun Z => pool.set dst Z
    | _, _ => .ok pool
  | .inverse i dst =>
    match pool[i]? with
    | some X => (inverse dbg X).map fun Z => pool.set dst Z
    | none => .ok pool

def run (dbg : Bool) : List Step → List (SO3 K) → Except Err (List (SO3 K))
  | [], pool => .ok pool
  | s :: rest, pool => (step dbg pool s) >>= run dbg rest

theorem step_near (he : (Transc.eps : K) ≤ 1 / 10) (dbg : Bool) (pool : List (SO3 K))
    (h : ∀ X ∈ pool, Near X) (s : Step) :
    ∃ pool', step dbg pool s = .ok pool' ∧ ∀ X ∈ pool', Near X := by
  cases s with
  | compose i j dst =>
    dsimp only [step]
    split
    · next X Y hi hj =>
      exact Pool.store_ok_of h
        (compose_near he dbg (h X (List.mem_of_getElem? hi)) (h Y (List.mem_of_getElem? hj))) dst
    · exact ⟨pool, rfl, h⟩
  | inverse i dst =>
    dsimp only [step]
    split
    · next X hi => exact Pool.store_ok_of h (inverse_near dbg (h X (List.mem_of_getElem? hi))) dst
    · exact ⟨pool, rfl, h⟩

/-- **SO3, every history of any length**: no exception (assertions enabled or not), and every quaternion of the pool
    stays within `eps` of unit squared norm. -/
theorem run_near (he : (Transc.eps : K) ≤ 1 / 10) (dbg : Bool) (ops : List Step) :
    ∀ pool : List (SO3 K), (∀ X ∈ pool, Near X) →
      ∃ pool', run dbg ops pool = .ok pool' ∧ ∀ X ∈ pool', Near X :=
  Except.run_ok_of (fun _ => rfl) (fun _ _ _ => rfl) (fun pool s h => step_near he dbg pool h s) ops

/-- non-vacuity: a rational unit quaternion satisfies the invariant (over ℝ) -/
example : Near (⟨⟨3/5, 0, 4/5, 0⟩⟩ : SO3 ℝ) := by
  unfold Near dev Quat.sqn
  norm_num
  exact le_of_lt LawfulTransc.eps_pos
end SO3

namespace SE3
def Near (X : SE3 K) : Prop := SO3.Near X.asSO3

theorem make_ok_of_near (dbg : Bool) (t : V3 K) {q : Quat K} (h : SO3.Near ⟨q⟩) :
    make dbg t q = .ok ⟨t, q⟩ := by
  rw [make, SO3.checkUnit_ok_of_near dbg h]
  rfl

theorem compose_near (he : (Transc.eps : K) ≤ 1 / 10) (dbg : Bool) {X Y : SE3 K} (hX : Near X) (hY : Near Y) :
    ∃ Z, compose dbg X Y = .ok Z ∧ Near Z :=
  Except.bind_ok_of (SO3.compose_near he dbg hX hY) fun _ h => ⟨_, make_ok_of_near dbg _ h, h⟩

theorem inverse_near (dbg : Bool) {X : SE3 K} (hX : Near X) : ∃ Z, inverse dbg X = .ok Z ∧ Near Z :=
  Except.bind_ok_of (SO3.inverse_near dbg hX) fun _ h => ⟨_, make_ok_of_near dbg _ h, h⟩

inductive Step where
  | compose (i j dst : ℕ)
  | inverse (i dst : ℕ)

def step (dbg : Bool) (pool : List (SE3 K)) : Step → Except Err (List (SE3 K))
  | .compose i j dst =>
    match pool[i]?, pool[j]? with
    | some X, some Y => (compose dbg X Y).map fun Z => pool.set dst Z
    | _, _ => .ok pool
  | .inverse i dst =>
    match pool[i]? with
    | some X => (inverse dbg X).map fun Z => pool.set dst Z
    | none => .ok pool

def run (dbg : Bool) : List Step → List (SE3 K) → Except Err (List (SE3 K))
  | [], pool => .ok pool
  | s :: rest, pool => (step dbg pool s) >>= run dbg rest

theorem step_near (he : (Transc.eps : K) ≤ 1 / 10) (dbg : Bool) (pool : List (SE3 K))
    (h : ∀ X ∈ pool, Near X) (s : Step) :
    ∃ pool', step dbg pool s = .ok pool' ∧ ∀ X ∈ pool', Near X := by
  cases s with
  | compose i j dst =>
    dsimp only [step]
    split
    · next X Y hi hj =>
      exact Pool.store_ok_of h
        (compose_near he dbg (h X (List.mem_of_getElem? hi)) (h Y (List.mem_of_getElem? hj))) dst
    · exact ⟨pool, rfl, h⟩
  | inverse i dst =>
    dsimp only [step]
    split
    · next X hi => exact Pool.store_ok_of h (inverse_near dbg (h X (List.mem_of_getElem? hi))) dst
    · exact ⟨pool, rfl, h⟩

/-- **SE3, every history of any length**: no exception, rotation part stays within `eps` of unit norm
    (whatever the translations are). -/
theorem run_near (he : (Transc.eps : K) ≤ 1 / 10) (dbg : Bool) (ops : List Step) :
    ∀ pool : List (SE3 K), (∀ X ∈ pool, Near X) →
      ∃ pool', run dbg ops pool = .ok pool' ∧ ∀ X ∈ pool', Near X :=
  Except.run_ok_of (fun _ => rfl) (fun _ _ _ => rfl) (fun pool s h => step_near he dbg pool h s) ops
end SE3

namespace SE23
def Near (X : SE23 K) : Prop := SO3.Near X.asSO3

theorem make_ok_of_near (dbg : Bool) (t v : V3 K) {q : Quat K} (h : SO3.Near ⟨q⟩) :
    make dbg t q v = .ok ⟨t, q, v⟩ := by
  rw [make, SO3.checkUnit_ok_of_near dbg h]
  rfl

theorem compose_near (he : (Transc.eps : K) ≤ 1 / 10) (dbg : Bool) {X Y : SE23 K} (hX : Near X) (hY : Near Y) :
    ∃ Z, compose dbg X Y = .ok Z ∧ Near Z :=
  Except.bind_ok_of (SO3.compose_near he dbg hX hY) fun _ h => ⟨_, make_ok_of_near dbg _ _ h, h⟩

theorem inverse_near (dbg : Bool) {X : SE23 K} (hX : Near X) : ∃ Z, inverse dbg X = .ok Z ∧ Near Z :=
  Except.bind_ok_of (SO3.inverse_near dbg hX) fun _ h => ⟨_, make_ok_of_near dbg _ _ h, h⟩

inductive Step where
  | compose (i j dst : ℕ)
  | inverse (i dst : ℕ)

def step (dbg : Bool) (pool : List (SE23 K)) : Step → Except Err (List (SE23 K))
  | .compose i j dst =>
    match pool[i]?, pool[j]? with
    | some X, some Y => (compose dbg X Y).map fun Z => pool.set dst Z
    | _, _ => .ok pool
  | .inverse i dst =>
    match pool[i]? with
    | some X => (inverse dbg X).map fun Z => pool.set dst Z
    | none => .ok pool

def run (dbg : Bool) : List Step → List (SE23 K) → Except Err (List (SE23 K))
  | [], pool => .ok pool
  | s :: rest, pool => (step dbg pool s) >>= run dbg rest

theorem step_near (he : (Transc.eps : K) ≤ 1 / 10) (dbg : Bool) (pool : List (SE23 K))
    (h : ∀ X ∈ pool, Near X) (s : Step) :
    ∃ pool', step dbg pool s = .ok pool' ∧ ∀ X ∈ pool', Near X := by
  cases s with
  | compose i j dst =>
    dsimp only [step]
    split
    · next X Y hi hj =>
      exact Pool.store_ok_of h
        (compose_near he dbg (h X (List.mem_of_getElem? hi)) (h Y (List.mem_of_getElem? hj))) dst
    · exact ⟨pool, rfl, h⟩
  | inverse i dst =>
    dsimp only [step]
    split
    · next X hi => exact Pool.store_ok_of h (inverse_near dbg (h X (List.mem_of_getElem? hi))) dst
    · exact ⟨pool, rfl, h⟩

theorem run_near (he : (Transc.eps : K) ≤ 1 / 10) (dbg : Bool) (ops : List Step) :
    ∀ pool : List (SE23 K), (∀ X ∈ pool, Near X) →
      ∃ pool', run dbg ops pool = .ok pool' ∧ ∀ X ∈ pool', Near X :=
  Except.run_ok_of (fun _ => rfl) (fun _ _ _ => rfl) (fun pool s h => step_near he dbg pool h s) ops
end SE23

namespace SGal3
def Near (X : SGal3 K) : Prop := SO3.Near X.asSO3

theorem make_ok_of_near (dbg : Bool) (p v : V3 K) (s : K) {q : Quat K} (h : SO3.Near ⟨q⟩) :
    make dbg p q v s = .ok ⟨p, q, v, s⟩ := by
  rw [make, SO3.checkUnit_ok_of_near dbg h]
  rfl

theorem compose_near (he : (Transc.eps : K) ≤ 1 / 10) (dbg : Bool) {X Y : SGal3 K} (hX : Near X) (hY : Near Y) :
    ∃ Z, compose dbg X Y = .ok Z ∧ Near Z :=
  Except.bind_ok_of (SO3.compose_near he dbg hX hY) fun _ h => ⟨_, make_ok_of_near dbg _ _ _ h, h⟩

theorem inverse_near (dbg : Bool) {X : SGal3 K} (hX : Near X) : ∃ Z, inverse dbg X = .ok Z ∧ Near Z :=
  Except.bind_ok_of (SO3.inverse_near dbg hX) fun _ h => ⟨_, make_ok_of_near dbg _ _ _ h, h⟩

inductive Step where
  | compose (i j dst : ℕ)
  | inverse (i dst : ℕ)

def step (dbg : Bool) (pool : List (SGal3 K)) : Step → Except Err (List (SGal3 K))
  | .compose i j dst =>
    match pool[i]?, pool[j]? with
    | some X, some Y => (compose dbg X Y).map fun Z => pool.set dst Z
    | _, _ => .ok pool
  | .inverse i dst =>
    match pool[i]? with
    | some X => (inverse dbg X).map fun Z => pool.set dst Z
    | none => .ok pool

def run (dbg : Bool) : List Step → List (SGal3 K) → Except Err (List (SGal3 K))
  | [], pool => .ok pool
  | s :: rest, pool => (step dbg pool s) >>= run dbg rest

theorem step_near (he : (Transc.eps : K) ≤ 1 / 10) (dbg : Bool) (pool : List (SGal3 K))
    (h : ∀ X ∈ pool, Near X) (s : Step) :
    ∃ pool', step dbg pool s = .ok pool' ∧ ∀ X ∈ pool', Near X := by
  cases s with
  | compose i j dst =>
    dsimp only [step]
    split
    · next X Y hi hj =>
      exact Pool.store_ok_of h
        (compose_near he dbg (h X (List.mem_of_getElem? hi)) (h Y (List.mem_of_getElem? hj))) dst
    · exact ⟨pool, rfl, h⟩
  | inverse i dst =>
    dsimp only [step]
    split
    · next X hi => exact Pool.store_ok_of h (inverse_near dbg (h X (List.mem_of_getElem? hi))) dst
    · exact ⟨pool, rfl, h⟩

theorem run_near (he : (Transc.eps : K) ≤ 1 / 10) (dbg : Bool) (ops : List Step) :
    ∀ pool : List (SGal3 K), (∀ X ∈ pool, Near X) →
      ∃ pool', run dbg ops pool = .ok pool' ∧ ∀ X ∈ pool', Near X :=
  Except.run_ok_of (fun _ => rfl) (fun _ _ _ => rfl) (fun pool s h => step_near he dbg pool h s) ops
end SGal3

namespace SE2
def dev (X : SE2 K) : K := X.re * X.re + X.im * X.im - 1
def Near (X : SE2 K) : Prop := |dev X| ≤ Transc.eps
def rotPart (X : SE2 K) : SO2 K := ⟨X.re, X.im⟩

omit [IsStrictOrderedRing K] [LawfulTransc K] in
theorem rotPart_composeRaw (X Y : SE2 K) : rotPart (composeRaw X Y) = SO2.composeRaw (rotPart X) (rotPart Y) := by
  unfold composeRaw SO2.composeRaw rotPart
  simp only
  split <;> rfl

theorem near_composeRaw (he : (Transc.eps : K) ≤ 1 / 10) {X Y : SE2 K} (hX : Near X) (hY : Near Y) :
    Near (composeRaw X Y) := by
  show SO2.Near (rotPart (composeRaw X Y))
  rw [rotPart_composeRaw]
  exact SO2.near_composeRaw he (X := rotPart X) (Y := rotPart Y) hX hY

omit [IsStrictOrderedRing K] [LawfulTransc K] in
theorem near_inverseRaw {X : SE2 K} (hX : Near X) : Near (inverseRaw X) :=
  SO2.near_inverseRaw (X := rotPart X) hX

theorem make_ok_of_near (dbg : Bool) (x y : K) {re im : K} (h : SO2.Near ⟨re, im⟩) :
    make dbg x y re im = .ok ⟨x, y, re, im⟩ := by
  simp [make, V2.norm, V2.sqNorm, checkUnit_sqrt_ok dbg h]

theorem compose_near (he : (Transc.eps : K) ≤ 1 / 10) (dbg : Bool) {X Y : SE2 K} (hX : Near X) (hY : Near Y) :
    ∃ Z, compose dbg X Y = .ok Z ∧ Near Z :=
  have hZ := near_composeRaw he hX hY
  ⟨composeRaw X Y, make_ok_of_near dbg _ _ hZ, hZ⟩

theorem inverse_near (dbg : Bool) {X : SE2 K} (hX : Near X) : ∃ Z, inverse dbg X = .ok Z ∧ Near Z :=
  have hZ := near_inverseRaw hX
  ⟨inverseRaw X, make_ok_of_near dbg _ _ hZ, hZ⟩

inductive Step where
  | compose (i j dst : ℕ)
  | inverse (i dst : ℕ)

def step (dbg : Bool) (pool : List (SE2 K)) : Step → Except Err (List (SE2 K))
  | .compose i j dst =>
    match pool[i]?, pool[j]? with
    | some X, some Y => (compose dbg X Y).map fun Z => pool.set dst Z
    | _, _ => .ok pool
  | .inverse i dst =>
    match pool[i]? with
    | some X => (inverse dbg X).map fun Z => pool.set dst Z
    | none => .ok pool

def run (dbg : Bool) : List Step → List (SE2 K) → Except Err (List (SE2 K))
  | [], pool => .ok pool
  | s :: rest, pool => (step dbg pool s) >>= run dbg rest

theorem step_near (he : (Transc.eps : K) ≤ 1 / 10) (dbg : Bool) (pool : List (SE2 K))
    (h : ∀ X ∈ pool, Near X) (s : Step) :
    ∃ pool', step dbg pool s = .ok pool' ∧ ∀ X ∈ pool', Near X := by
  cases s with
  | compose i j dst =>
    dsimp only [step]
    split
    · next X Y hi hj =>
      exact Pool.store_ok_of h
        (compose_near he dbg (h X (List.mem_of_getElem? hi)) (h Y (List.mem_of_getElem? hj))) dst
    · exact ⟨pool, rfl, h⟩
  | inverse i dst =>
    dsimp only [step]
    split
    · next X hi => exact Pool.store_ok_of h (inverse_near dbg (h X (List.mem_of_getElem? hi))) dst
    · exact ⟨pool, rfl, h⟩

/-- **SE2, every history of any length**: no exception, complex part within `eps` of unit squared norm. -/
theorem run_near (he : (Transc.eps : K) ≤ 1 / 10) (dbg : Bool) (ops : List Step) :
    ∀ pool : List (SE2 K), (∀ X ∈ pool, Near X) →
      ∃ pool', run dbg ops pool = .ok pool' ∧ ∀ X ∈ pool', Near X :=
  Except.run_ok_of (fun _ => rfl) (fun _ _ _ => rfl) (fun pool s h => step_near he dbg pool h s) ops
end SE2
end Manif
