/-
  C04 — plus, minus, between are the documented compositions; all aliases agree.
  * the derived members are, for EVERY group (any record of primitives), exactly the documented
    compositions of the primitives (`rplus_def` …) — together with C01–C03 this gives
    `X.rplus(t) = X*exp(t)` etc. as matrices;
  * the alias table: every documented alias resolves to its canonical member;
  * SO2, SE2 over ℝ: `log (exp t) = t` on the principal range `−π < θ ≤ π`.
-/
import ManifProofs.Properties.C03
import ManifProofs.Inst.Real

namespace Manif

section defs
variable {K G T J : Type} (o : GroupOps K G T J)

/-- **`X.rplus(t) = X.compose(t.exp())`** (the value, no Jacobian requested). -/
theorem rplus_def (dbg : Bool) (X : G) (t : T) :
    (o.rplus dbg X t false false).map (·.val) = (do let e ← o.exp dbg t; o.compose dbg X e) := by
  rw [o.rplus_plain, Except.map_map]
  exact congrFun Except.map_id _

/-- **`X.lplus(t) = t.exp().compose(X)`**. -/
theorem lplus_def (dbg : Bool) (X : G) (t : T) :
    (o.lplus dbg X t false false).map (·.val) = (do let e ← o.exp dbg t; o.compose dbg e X) := by
  rw [o.lplus_plain, Except.map_map]
  exact congrFun Except.map_id _

/-- **`X.rminus(Y) = Y.inverse().compose(X).log()`**. -/
theorem rminus_def (dbg : Bool) (X Y : G) :
    (o.rminus dbg X Y false false).map (·.val) =
      (do let yi ← o.inverse dbg Y; let c ← o.compose dbg yi X; pure (o.log c)) := by
  rw [o.rminus_mask, Except.map_map]
  exact congrFun Except.map_id _

/-- **`X.lminus(Y) = X.compose(Y.inverse()).log()`**. -/
theorem lminus_def (dbg : Bool) (X Y : G) :
    (o.lminus dbg X Y false false).map (·.val) =
      (do let yi ← o.inverse dbg Y; let c ← o.compose dbg X yi; pure (o.log c)) := by
  rw [o.lminus_mask, Except.map_map]
  exact congrFun Except.map_id _

/-- **`X.between(Y) = X.inverse().compose(Y)`**. -/
theorem between_def (dbg : Bool) (X Y : G) :
    (o.between dbg X Y false false).map (·.val) =
      (do let xi ← o.inverse dbg X; o.compose dbg xi Y) := by
  rw [o.between_plain, Except.map_map]
  exact congrFun Except.map_id _

end defs

/-- every plain alias resolves to the canonical member listed beside it and keeps the order of
    its optional outputs. -/
theorem alias_table : ∀ p ∈ Api.aliasTable, Api.canonical p.1 = p.2 ∧ Api.isSwapped p.1 = false := by
  decide

/-- tangent-side forms resolve to the group-side member with swapped optional outputs. -/
theorem swapped_table : ∀ p ∈ Api.swappedTable, Api.canonical p.1 = p.2 ∧ Api.isSwapped p.1 = true := by
  decide

/-- the driver (the function the correspondence check runs against the C++ aliases) answers a
    plain alias with exactly what it answers for the canonical member. -/
theorem runGroup_alias {K : Type} [Scalar K] (grp : String) (dbg : Bool) (a : String) (mask : Nat)
    (args : List K) (ints : List Int) (h : Api.isSwapped a = false) :
    runGroup grp dbg a mask args ints = runCanonical grp dbg (Api.canonical a) mask args ints := by
  simp [runGroup, withAliases, h]

theorem swapMask_involutive (m : Nat) (h : m < 4) : Api.swapMask (Api.swapMask m) = m := by
  have : m = 0 ∨ m = 1 ∨ m = 2 ∨ m = 3 := by omega
  rcases this with rfl | rfl | rfl | rfl <;> rfl

example : Api.canonical "op+" = "rplus" ∧ Api.canonical "t+X" = "lplus" ∧ Api.canonical "f_minus" = "rminus" := by
  decide

namespace SO2

theorem angle_exp (θ : ℝ) (h1 : -Real.pi < θ) (h2 : θ ≤ Real.pi) :
    (SO2T.expRaw (⟨θ⟩ : SO2T ℝ)).angle = θ :=
  arg_cos_sin θ h1 h2

/-- **SO2: `log(exp t) = t`** inside the injectivity radius. -/
theorem log_exp (t : SO2T ℝ) (h1 : -Real.pi < t.ang) (h2 : t.ang ≤ Real.pi) :
    log (SO2T.expRaw t) = t := by
  cases t with
  | mk θ => simp only [log]; rw [angle_exp θ h1 h2]

end SO2

namespace SE2

/-- **SE2: `log(exp t) = t`** for `−π < θ ≤ π` (both branches of the small-angle switch), provided the `(A, B)` pair of
    `exp` is non-degenerate (`A² + B² ≠ 0`). -/
theorem log_exp (t : SE2T ℝ) (h1 : -Real.pi < t.ang) (h2 : t.ang ≤ Real.pi)
    (hAB : (SE2T.coefAB t.ang (Real.cos t.ang) (Real.sin t.ang)).1 * (SE2T.coefAB t.ang (Real.cos t.ang) (Real.sin t.ang)).1 +
      (SE2T.coefAB t.ang (Real.cos t.ang) (Real.sin t.ang)).2 * (SE2T.coefAB t.ang (Real.cos t.ang) (Real.sin t.ang)).2 ≠ 0) :
    log (SE2T.expRaw t) = t := by
  obtain ⟨x, y, θ⟩ := t
  simp only at h1 h2 hAB
  have hang : (SE2T.expRaw (⟨x, y, θ⟩ : SE2T ℝ)).angle = θ := arg_cos_sin θ h1 h2
  rcases hp : SE2T.coefAB θ (Real.cos θ) (Real.sin θ) with ⟨A, B⟩
  rw [hp] at hAB
  simp only at hAB
  have hre : (SE2T.expRaw (⟨x, y, θ⟩ : SE2T ℝ)).re = Real.cos θ := rfl
  have him : (SE2T.expRaw (⟨x, y, θ⟩ : SE2T ℝ)).im = Real.sin θ := rfl
  have hx : (SE2T.expRaw (⟨x, y, θ⟩ : SE2T ℝ)).x = A * x - B * y := by simp [SE2T.expRaw, hp]
  have hy : (SE2T.expRaw (⟨x, y, θ⟩ : SE2T ℝ)).y = B * x + A * y := by simp [SE2T.expRaw, hp]
  unfold log
  simp only [hang, hre, him, hp, hx, hy, scalar_nat, Nat.cast_one]
  have hD' : A ^ 2 + B ^ 2 ≠ 0 := by rw [pow_two, pow_two]; exact hAB
  congr 1
  · field_simp; ring
  · field_simp; ring

end SE2

end Manif
