/-
  C11 — a Bundle is the direct product of its element groups (index arithmetic, every layout).
  For EVERY list of element sizes (no bound on the number or sizes of the elements):
    * `compute_indices` (transcribed from the template recursion of traits.h) is the exclusive
      prefix sum of the sizes;
    * the slices it induces tile the flat vector: consecutive, disjoint, in order, covering it —
      so `element<i>()` views alias exactly the i-th element's coefficients.
  Every bundle member of the model is *defined* as "slice, run the element's own model, place at
  the element's offset" (Bundle.lean), so bundle-op = blockwise-op holds there by construction;
  the correspondence check ties that model, and the standalone C++ groups, to the C++ bundle.
    * "exact zeros elsewhere": an entry of a block-diagonal Jacobian built by the bundle model whose row and
      column do not fall into one common diagonal block is the scalar zero, whatever the blocks contain
      (every scalar instance, NaN entries included).
-/
import ManifModel
-- the Mathlib imports fix the `Zero ℕ` instance with which `sizes.sum` in the statements below is elaborated
import Mathlib.Tactic.Ring
import Mathlib.Tactic.Linarith
import Mathlib.Algebra.BigOperators.Group.List.Basic

namespace Manif

/-- the template recursion with its accumulators: offset `i` so far, entries `outs` already emitted -/
theorem computeIndicesGen_spec : ∀ (sizes : List Nat) (i : Nat) (outs : List Nat), sizes ≠ [] →
    computeIndicesGen i sizes outs = 0 :: (outs ++ (Mem.prefixSums sizes).tail.map (i + ·))
  | [], _, _, h => absurd rfl h
  | [_], i, outs, _ => by simp [computeIndicesGen, Mem.prefixSums]
  | j :: r :: rest, i, outs, _ => by
    rw [computeIndicesGen, computeIndicesGen_spec (r :: rest) (i + j) _ nofun]
    · simp [Mem.prefixSums, Nat.add_assoc, Nat.add_comm j]
    · nofun

/-- **`compute_indices` is the exclusive prefix sum** of the sizes. -/
theorem computeIndices_eq_prefixSums (sizes : List Nat) : computeIndices sizes = Mem.prefixSums sizes := by
  cases sizes with
  | nil => rfl
  | cons s rest =>
    rw [computeIndices, computeIndicesGen_spec (s :: rest) 0 [] nofun]
    · simp [Mem.prefixSums]
    · nofun

theorem computeIndices_cons (s : Nat) (rest : List Nat) :
    computeIndices (s :: rest) = 0 :: (computeIndices rest).map (· + s) := by
  simp only [computeIndices_eq_prefixSums, Mem.prefixSums]

/-- in closed form: entry `k` is the sum of the first `k` sizes -/
theorem computeIndices_eq (sizes : List Nat) :
    computeIndices sizes = (List.range sizes.length).map fun k => (sizes.take k).sum := by
  induction sizes with
  | nil => rfl
  | cons s rest ih =>
    rw [computeIndices_cons, ih, List.length_cons, List.range_succ_eq_map, List.map_cons, List.map_map,
      List.map_map]
    simp [Function.comp_def, Nat.add_comm]

theorem computeIndices_length (sizes : List Nat) : (computeIndices sizes).length = sizes.length := by
  rw [computeIndices_eq, List.length_map, List.length_range]

/-- offsets are increasing by exactly the element sizes: element `k+1` starts where `k` ends. -/
theorem computeIndices_succ (sizes : List Nat) (k : Nat) (h : k + 1 < sizes.length) :
    (computeIndices sizes)[k + 1]'(by rw [computeIndices_length]; exact h) =
      (computeIndices sizes)[k]'(by rw [computeIndices_length]; omega) + sizes[k]'(by omega) := by
  simp only [computeIndices_eq, List.getElem_map, List.getElem_range]
  rw [List.take_add_one, List.sum_append]
  simp [List.getElem?_eq_getElem (by omega : k < sizes.length)]

theorem slices_cons {K : Type} (s : Nat) (rest : List Nat) (l : List K) :
    slices (s :: rest) l = l.take s :: slices rest (l.drop s) := by
  simp only [slices, computeIndices_cons, List.zipWith_cons_cons, List.zipWith_map_left, List.drop_zero,
    List.drop_drop, Nat.add_comm]

/-- **the slices tile the vector**: concatenated in order they give the vector back — they are
    consecutive, pairwise disjoint and cover it; `element<i>()` is the i-th of them. -/
theorem slices_tile {K : Type} (sizes : List Nat) (l : List K) (h : l.length = sizes.sum) :
    (slices sizes l).flatten = l := by
  induction sizes generalizing l with
  | nil => exact (List.eq_nil_of_length_eq_zero h).symm
  | cons s rest ih =>
    rw [slices_cons, List.flatten_cons, ih _ (by simp [h]), List.take_append_drop]

theorem slices_lengths {K : Type} (sizes : List Nat) (l : List K) (h : l.length = sizes.sum) :
    (slices sizes l).map List.length = sizes := by
  induction sizes generalizing l with
  | nil => rfl
  | cons s rest ih =>
    simp only [List.sum_cons] at h
    rw [slices_cons, List.map_cons, ih _ (by simp [h]), List.length_take, Nat.min_eq_left (by omega)]

example : computeIndices [7, 4, 2, 10] = [0, 7, 11, 13] := by decide
example : slices [2, 3] [1, 2, 3, 4, 5] = [[1, 2], [3, 4, 5]] := by decide

section blockDiag
variable {K : Type} [Scalar K]

/-- **exact zeros outside the diagonal blocks**: an entry `(i, j)` of `blockDiag` whose row and column do not
    fall into one common block is the scalar zero `nat 0` — whatever the blocks contain (NaN included).
    The entry is read with default `nat 1`, so that a read out of range could not pass for the zero. -/
theorem blockDiag_off (bs : List Nat) (blocks : List (List K)) (i j : Nat)
    (hi : i < bs.foldl (· + ·) 0) (hj : j < bs.foldl (· + ·) 0)
    (h : ∀ x ∈ List.zip (List.zip (computeIndices bs) bs) blocks,
      ¬ (x.1.1 ≤ i ∧ i < x.1.1 + x.1.2 ∧ x.1.1 ≤ j ∧ j < x.1.1 + x.1.2)) :
    ((blockDiag bs blocks).getD i []).getD j (Scalar.nat 1) = (Scalar.nat 0 : K) := by
  unfold blockDiag
  simp only
  have hf : (List.zip (List.zip (computeIndices bs) bs) blocks).find? (fun x =>
      decide (x.1.1 ≤ i ∧ i < x.1.1 + x.1.2 ∧ x.1.1 ≤ j ∧ j < x.1.1 + x.1.2)) = none := by
    rw [List.find?_eq_none]
    intro x hx
    simpa using h x hx
  simp only [List.getD_eq_getElem?_getD, List.getElem?_map, List.getElem?_range hi, Option.map_some, Option.getD_some,
    List.getElem?_range hj, hf]
end blockDiag

end Manif
