/-
  C01 — compose, inverse, identity and act realise the matrix group.

  For every valid X, Y (unit-norm rotation part; both quaternion hemispheres — the sign of `w` never enters), over
  every ordered field with `LawfulTransc` (ℝ by `Inst/Real.lean`):
    * the homogeneous matrix of `compose X Y` is the product of the matrices,
    * the matrix of `inverse X` is the two-sided matrix inverse,
    * the matrix of the identity (obtained as `exp 0`, as in the source) is `1`,
    * `act X p` is the matrix applied to `p` in homogeneous coordinates,
    * with run-time assertions enabled none of these raises.
  Per group, `mul`, `inv`, `one` are the values `compose`, `inverse`, `exp 0` return on valid operands (`okGroup`, an
  instance of `GroupOps.OkGroup`); their cancellation laws are plain algebra and need no law of `sqrt`/`sin`/`cos`
  (they also hold over ℚ, where the `example`s exhibit valid elements).  `toMat` is multiplicative on them (`toMat_mul`,
  `toMat_one`), so the statements about the calls come from `Lemmas/OkGroup.lean`, the two-sided matrix inverse being
  the image of `X⁻¹ · X = 1 = X · X⁻¹`.
-/
import ManifProofs.Lemmas.Quat
import ManifProofs.Lemmas.Block
import ManifProofs.Lemmas.OkGroup
import ManifModel.Flat
import Mathlib.Tactic.NormNum
import Mathlib.Tactic.Linarith
import Mathlib.Tactic.FieldSimp

namespace Manif
open Matrix

variable {K : Type} [Field K] [LinearOrder K] [IsStrictOrderedRing K] [Transc K] [LawfulTransc K]

/-- The constructor check passes on a norm whose SQUARE is within `eps` of one: with `r = √s ≥ 0`,
    `r² = s ≤ 1 + eps < (1 + eps)²` and `(1 - eps)² < 1 - eps ≤ s = r²` (the latter needs `eps < 1`). -/
theorem checkUnit_sqrt_ok (dbg : Bool) {s : K} (h : |s - 1| ≤ Transc.eps) :
    checkUnit dbg (Transc.sqrt s) = .ok () := by
  have hpos : (0 : K) < Transc.eps := LawfulTransc.eps_pos
  have hlt : (Transc.eps : K) < 1 := LawfulTransc.eps_lt_one
  obtain ⟨h1, h2⟩ := abs_le.mp h
  have hr := LawfulTransc.sqrt_mul_self s (by linarith)
  have hu : Transc.sqrt s < 1 + Transc.eps := lt_of_mul_self_lt_mul_self₀ (by linarith) <|
    calc Transc.sqrt s * Transc.sqrt s = s := hr
      _ ≤ 1 + Transc.eps := by linarith
      _ < (1 + Transc.eps) * (1 + Transc.eps) := lt_mul_of_one_lt_left (by linarith) (by linarith)
  have hl : 1 - Transc.eps < Transc.sqrt s := lt_of_mul_self_lt_mul_self₀ (LawfulTransc.sqrt_nonneg s) <|
    calc (1 - Transc.eps) * (1 - Transc.eps) < 1 - Transc.eps :=
          mul_lt_of_lt_one_left (by linarith) (by linarith)
      _ ≤ s := by linarith
      _ = Transc.sqrt s * Transc.sqrt s := hr.symm
  have key : |Transc.sqrt s - 1| < Transc.eps := abs_lt.mpr ⟨by linarith, by linarith⟩
  simp [checkUnit, key]

/-- in particular on a norm whose square is exactly one -/
theorem checkUnit_sqrt_one (dbg : Bool) {s : K} (h : s = 1) : checkUnit dbg (Transc.sqrt s) = .ok () :=
  checkUnit_sqrt_ok dbg (by rw [h, sub_self, abs_zero]; exact LawfulTransc.eps_pos.le)

theorem eps_not_neg : ¬ ((Transc.eps : K) < 0) := not_lt.mpr LawfulTransc.eps_pos.le

omit [LinearOrder K] [IsStrictOrderedRing K] [Transc K] [LawfulTransc K] in
/-- the product of two unit complex numbers is a unit -/
theorem unit_mul_unit {a b c d : K} (h1 : a * a + b * b = 1) (h2 : c * c + d * d = 1) :
    (a * c - b * d) * (a * c - b * d) + (a * d + b * c) * (a * d + b * c) = 1 := by
  linear_combination (c * c + d * d) * h1 + h2

namespace SO2
def Valid (X : SO2 K) : Prop := X.re * X.re + X.im * X.im = 1
def toMat (X : SO2 K) : Matrix (Fin 3) (Fin 3) K := X.transform.toMatrix

-- the group in coordinates (here and in the `coordinates` section of each group below): algebra in a field,
-- no order and no law of `sqrt`/`sin`/`cos`
section coordinates
omit [IsStrictOrderedRing K] [LawfulTransc K]

/-- the complex product; the inverse is the model's `inverseRaw` (the conjugate), the identity the literal `⟨1, 0⟩` -/
def mul (X Y : SO2 K) : SO2 K := ⟨X.re * Y.re - X.im * Y.im, X.re * Y.im + X.im * Y.re⟩

theorem valid_inverseRaw {X : SO2 K} (hX : Valid X) : Valid (inverseRaw X) := by
  unfold Valid at *
  simp only [inverseRaw, neg_mul_neg]
  exact hX

protected theorem mul_inv_cancel_left {X : SO2 K} (hX : Valid X) (Y : SO2 K) :
    mul X (mul (inverseRaw X) Y) = Y := by
  unfold Valid at hX
  obtain ⟨c, d⟩ := Y
  simp only [mul, inverseRaw]
  congr 1
  · linear_combination c * hX
  · linear_combination d * hX

protected theorem inv_mul_cancel_left {X : SO2 K} (hX : Valid X) (Y : SO2 K) :
    mul (inverseRaw X) (mul X Y) = Y := by
  unfold Valid at hX
  obtain ⟨c, d⟩ := Y
  simp only [mul, inverseRaw]
  congr 1
  · linear_combination c * hX
  · linear_combination d * hX

protected theorem mul_inv_cancel_right {X : SO2 K} (hX : Valid X) (Y : SO2 K) :
    mul (mul Y X) (inverseRaw X) = Y := by
  unfold Valid at hX
  obtain ⟨c, d⟩ := Y
  simp only [mul, inverseRaw]
  congr 1
  · linear_combination c * hX
  · linear_combination d * hX

omit [LinearOrder K] [Transc K] in
protected theorem mul_one (X : SO2 K) : mul X ⟨1, 0⟩ = X := by
  simp only [mul, mul_one, mul_zero, sub_zero, zero_add]
end coordinates

theorem make_ok (dbg : Bool) {X : SO2 K} (h : Valid X) : make dbg X.re X.im = .ok X := by
  simp [make, V2.norm, V2.sqNorm, checkUnit_sqrt_one dbg h]

theorem expRaw_valid (t : SO2T K) : Valid (SO2T.expRaw t) :=
  (add_comm _ _).trans (LawfulTransc.sin_sq_add_cos_sq t.ang)

theorem exp_ok (dbg : Bool) (t : SO2T K) : SO2T.exp dbg t = .ok (SO2T.expRaw t) := by
  simpa only [SO2T.exp, SO2T.expRaw] using make_ok dbg (expRaw_valid t)

/-- `rotation()` (which goes through `atan2`, `cos`, `sin`) is the plain rotation matrix. -/
theorem rotation_eq {X : SO2 K} (h : Valid X) : X.rotation = ⟨X.re, -X.im, X.im, X.re⟩ := by
  unfold Valid at h
  simp [rotation, angle, LawfulTransc.cos_atan2 _ _ h, LawfulTransc.sin_atan2 _ _ h]

theorem transform_eq {X : SO2 K} (h : Valid X) :
    X.transform = ⟨X.re, -X.im, 0, X.im, X.re, 0, 0, 0, 1⟩ := by
  msimp [transform, rotation_eq h]

/-- on valid operands the renormalisation branch of `compose` is not taken -/
theorem composeRaw_eq {X Y : SO2 K} (hX : Valid X) (hY : Valid Y) : composeRaw X Y = mul X Y := by
  simp [composeRaw, mul, unit_mul_unit hX hY, eps_not_neg]

theorem compose_ok (dbg : Bool) {X Y : SO2 K} (hX : Valid X) (hY : Valid Y) :
    compose dbg X Y = .ok ⟨X.re * Y.re - X.im * Y.im, X.re * Y.im + X.im * Y.re⟩ := by
  rw [compose, composeRaw_eq hX hY]
  exact make_ok dbg (X := mul X Y) (unit_mul_unit hX hY)

theorem inverse_ok (dbg : Bool) {X : SO2 K} (hX : Valid X) : inverse dbg X = .ok ⟨X.re, -X.im⟩ := by
  simpa only [inverse, inverseRaw] using make_ok dbg (valid_inverseRaw hX)

theorem okGroup : (so2Ops (K := K)).OkGroup Valid mul inverseRaw ⟨1, 0⟩ where
  compose_ok dbg _ _ hX hY := compose_ok dbg hX hY
  inverse_ok dbg _ hX := inverse_ok dbg hX
  valid_mul hX hY := unit_mul_unit hX hY
  valid_inv := valid_inverseRaw
  valid_one := by simp [Valid]
  mul_inv_cancel_left := SO2.mul_inv_cancel_left
  inv_mul_cancel_left := SO2.inv_mul_cancel_left
  mul_one := SO2.mul_one

theorem exp_zero (dbg : Bool) : SO2T.exp dbg (⟨0⟩ : SO2T K) = .ok ⟨1, 0⟩ := by
  have := make_ok dbg (okGroup (K := K)).valid_one
  simpa [SO2T.exp, LawfulTransc.sin_zero, LawfulTransc.cos_zero] using this

theorem toMat_mul {X Y : SO2 K} (hX : Valid X) (hY : Valid Y) : toMat (mul X Y) = toMat X * toMat Y := by
  rw [toMat, toMat, toMat, ← M3.toMatrix_mul, transform_eq (okGroup.valid_mul hX hY), transform_eq hX,
    transform_eq hY, M3.affine_mul]
  simp only [mul]
  congr 2 <;> ring

theorem toMat_one : toMat (⟨1, 0⟩ : SO2 K) = 1 := by
  rw [toMat, transform_eq okGroup.valid_one, neg_zero, ← M3.one_eq, M3.toMatrix_one]

/-- **C01/SO2 compose**: no exception, valid result, matrix of the product = product of matrices. -/
theorem toMat_compose (dbg : Bool) {X Y : SO2 K} (hX : Valid X) (hY : Valid Y) :
    ∃ Z, compose dbg X Y = .ok Z ∧ Valid Z ∧ toMat Z = toMat X * toMat Y :=
  okGroup.map_compose toMat toMat_mul dbg hX hY

/-- **C01/SO2 inverse**: two-sided matrix inverse. -/
theorem toMat_inverse (dbg : Bool) {X : SO2 K} (hX : Valid X) :
    ∃ Z, inverse dbg X = .ok Z ∧ Valid Z ∧ toMat Z * toMat X = 1 ∧ toMat X * toMat Z = 1 :=
  okGroup.map_inverse toMat toMat_mul toMat_one dbg hX

/-- **C01/SO2 identity** (`exp 0`). -/
theorem toMat_identity (dbg : Bool) :
    ∃ Z : SO2 K, SO2T.exp dbg ⟨0⟩ = .ok Z ∧ Valid Z ∧ toMat Z = 1 :=
  okGroup.map_one toMat toMat_one (exp_zero dbg)

/-- **C01/SO2 act**: the matrix applied to the point in homogeneous coordinates. -/
theorem act_eq {X : SO2 K} (hX : Valid X) (p : V2 K) :
    homog2 (act X p) = (toMat X).mulVec (homog2 p) := by
  rw [toMat, transform_eq hX]
  simp only [act, rotation_eq hX]
  ext i
  fin_cases i <;>
    simp [homog2, M2.mulVec, M3.toMatrix, Matrix.mulVec, dotProduct, Fin.sum_univ_three]

example : Valid (⟨3/5, 4/5⟩ : SO2 ℚ) := by norm_num [Valid]
end SO2

namespace SE2
def Valid (X : SE2 K) : Prop := X.re * X.re + X.im * X.im = 1
def toMat (X : SE2 K) : Matrix (Fin 3) (Fin 3) K := X.transform.toMatrix

section coordinates
omit [IsStrictOrderedRing K] [LawfulTransc K]

/-- the group law on coordinates, over any scalar (C05 uses it over the dual numbers); as for SO2 the inverse is
    the model's `inverseRaw`, the identity the literal `⟨0, 0, 1, 0⟩` -/
def mul {K : Type} [Scalar K] (X Y : SE2 K) : SE2 K :=
  ⟨X.re * Y.x - X.im * Y.y + X.x, X.im * Y.x + X.re * Y.y + X.y, X.re * Y.re - X.im * Y.im, X.re * Y.im + X.im * Y.re⟩

theorem valid_inverseRaw {X : SE2 K} (hX : Valid X) : Valid (inverseRaw X) := by
  unfold Valid at *
  simp only [inverseRaw, neg_mul_neg]
  exact hX

protected theorem mul_inv_cancel_left {X : SE2 K} (hX : Valid X) (Y : SE2 K) :
    mul X (mul (inverseRaw X) Y) = Y := by
  unfold Valid at hX
  obtain ⟨a, b, c, d⟩ := Y
  simp only [mul, inverseRaw]
  congr 1
  · linear_combination (a - X.x) * hX
  · linear_combination (b - X.y) * hX
  · linear_combination c * hX
  · linear_combination d * hX

protected theorem inv_mul_cancel_left {X : SE2 K} (hX : Valid X) (Y : SE2 K) :
    mul (inverseRaw X) (mul X Y) = Y := by
  unfold Valid at hX
  obtain ⟨a, b, c, d⟩ := Y
  simp only [mul, inverseRaw]
  congr 1
  · linear_combination a * hX
  · linear_combination b * hX
  · linear_combination c * hX
  · linear_combination d * hX

protected theorem mul_inv_cancel_right {X : SE2 K} (hX : Valid X) (Y : SE2 K) :
    mul (mul Y X) (inverseRaw X) = Y := by
  unfold Valid at hX
  obtain ⟨a, b, c, d⟩ := Y
  simp only [mul, inverseRaw]
  congr 1
  · linear_combination (-(c * X.x - d * X.y)) * hX
  · linear_combination (-(c * X.y + d * X.x)) * hX
  · linear_combination c * hX
  · linear_combination d * hX

protected theorem mul_one (X : SE2 K) : mul X ⟨0, 0, 1, 0⟩ = X := by
  simp only [mul, mul_one, mul_zero, sub_zero, zero_add]

theorem transform_eq (X : SE2 K) : X.transform = ⟨X.re, -X.im, X.x, X.im, X.re, X.y, 0, 0, 1⟩ := by
  msimp [transform]

theorem toMat_mul {X Y : SE2 K} (_hX : Valid X) (_hY : Valid Y) : toMat (mul X Y) = toMat X * toMat Y := by
  rw [toMat, toMat, toMat, ← M3.toMatrix_mul, transform_eq, transform_eq, transform_eq, M3.affine_mul]
  simp only [mul]
  congr 2 <;> ring

theorem toMat_one : toMat (⟨0, 0, 1, 0⟩ : SE2 K) = 1 := by
  rw [toMat, transform_eq, neg_zero, ← M3.one_eq, M3.toMatrix_one]
end coordinates

theorem make_ok (dbg : Bool) {X : SE2 K} (h : Valid X) : make dbg X.x X.y X.re X.im = .ok X := by
  simp [make, V2.norm, V2.sqNorm, checkUnit_sqrt_one dbg h]

theorem expRaw_valid (t : SE2T K) : Valid (SE2T.expRaw t) :=
  (add_comm _ _).trans (LawfulTransc.sin_sq_add_cos_sq t.ang)

theorem exp_ok (dbg : Bool) (t : SE2T K) : SE2T.exp dbg t = .ok (SE2T.expRaw t) :=
  make_ok dbg (expRaw_valid t)

/-- on valid operands the renormalisation branch of `compose` is not taken -/
theorem composeRaw_eq {X Y : SE2 K} (hX : Valid X) (hY : Valid Y) : composeRaw X Y = mul X Y := by
  simp [composeRaw, mul, unit_mul_unit hX hY, eps_not_neg]

theorem compose_ok (dbg : Bool) {X Y : SE2 K} (hX : Valid X) (hY : Valid Y) :
    compose dbg X Y = .ok ⟨X.re * Y.x - X.im * Y.y + X.x, X.im * Y.x + X.re * Y.y + X.y,
      X.re * Y.re - X.im * Y.im, X.re * Y.im + X.im * Y.re⟩ := by
  rw [compose, composeRaw_eq hX hY]
  exact make_ok dbg (X := mul X Y) (unit_mul_unit hX hY)

theorem inverse_ok (dbg : Bool) {X : SE2 K} (hX : Valid X) :
    inverse dbg X = .ok ⟨-X.x * X.re - X.y * X.im, X.x * X.im - X.y * X.re, X.re, -X.im⟩ :=
  make_ok dbg (valid_inverseRaw hX)

theorem okGroup : (se2Ops (K := K)).OkGroup Valid mul inverseRaw ⟨0, 0, 1, 0⟩ where
  compose_ok dbg _ _ hX hY := compose_ok dbg hX hY
  inverse_ok dbg _ hX := inverse_ok dbg hX
  valid_mul hX hY := unit_mul_unit hX hY
  valid_inv := valid_inverseRaw
  valid_one := by simp [Valid]
  mul_inv_cancel_left := SE2.mul_inv_cancel_left
  inv_mul_cancel_left := SE2.inv_mul_cancel_left
  mul_one := SE2.mul_one

/-- `exp 0` takes the small-angle branch -/
theorem exp_zero (dbg : Bool) : SE2T.exp dbg (⟨0, 0, 0⟩ : SE2T K) = .ok ⟨0, 0, 1, 0⟩ := by
  have he : (0 : K) < Transc.eps := LawfulTransc.eps_pos
  have := make_ok dbg (okGroup (K := K)).valid_one
  simpa [SE2T.exp, SE2T.expRaw, SE2T.coefAB, he, LawfulTransc.sin_zero, LawfulTransc.cos_zero] using this

/-- **C01/SE2 compose**. -/
theorem toMat_compose (dbg : Bool) {X Y : SE2 K} (hX : Valid X) (hY : Valid Y) :
    ∃ Z, compose dbg X Y = .ok Z ∧ Valid Z ∧ toMat Z = toMat X * toMat Y :=
  okGroup.map_compose toMat toMat_mul dbg hX hY

/-- **C01/SE2 inverse**. -/
theorem toMat_inverse (dbg : Bool) {X : SE2 K} (hX : Valid X) :
    ∃ Z, inverse dbg X = .ok Z ∧ Valid Z ∧ toMat Z * toMat X = 1 ∧ toMat X * toMat Z = 1 :=
  okGroup.map_inverse toMat toMat_mul toMat_one dbg hX

/-- **C01/SE2 identity** (`exp 0`; note the small-angle branch is the one taken). -/
theorem toMat_identity (dbg : Bool) :
    ∃ Z : SE2 K, SE2T.exp dbg ⟨0, 0, 0⟩ = .ok Z ∧ Valid Z ∧ toMat Z = 1 :=
  okGroup.map_one toMat toMat_one (exp_zero dbg)

/-- **C01/SE2 act**. -/
theorem act_eq (X : SE2 K) (p : V2 K) :
    homog2 (act X p) = (toMat X).mulVec (homog2 p) := by
  ext i
  fin_cases i <;>
    simp [act, translation, rotation, V2.add, toMat, transform, homog2, M2.mulVec, M3.toMatrix,
      Matrix.mulVec, dotProduct, Fin.sum_univ_three] <;> ring

example : Valid (⟨1000000, -3, 5/13, -12/13⟩ : SE2 ℚ) := by norm_num [Valid]
end SE2

namespace SO3
def Valid (X : SO3 K) : Prop := X.q.sqn = 1
def toMat (X : SO3 K) : Matrix (Fin 4) (Fin 4) K := matOfRows 4 X.transformRows

section coordinates
omit [IsStrictOrderedRing K] [LawfulTransc K]

def mul (X Y : SO3 K) : SO3 K := ⟨X.q.mul Y.q⟩
def inv (X : SO3 K) : SO3 K := ⟨X.q.conj⟩
def one : SO3 K := ⟨⟨0, 0, 0, 1⟩⟩

theorem toMat_eq (X : SO3 K) : toMat X = hom4 X.rotation ⟨0, 0, 0⟩ := by
  rw [toMat, transformRows, matOfRows_lit4]
  simp only [scalar_nat, Nat.cast_zero, Nat.cast_one]
  rfl

theorem toMat_mul {X Y : SO3 K} (hX : Valid X) (hY : Valid Y) : toMat (mul X Y) = toMat X * toMat Y := by
  rw [toMat_eq, toMat_eq, toMat_eq, hom4_mul, M3.mulVec_zero, V3.add_zero]
  simp only [mul, rotation, Quat.toRot_mul _ _ hX hY]

theorem toMat_one : toMat (one : SO3 K) = 1 := by
  rw [toMat_eq, one, rotation, Quat.toRot_one, hom4_one]
end coordinates

theorem make_ok (dbg : Bool) {X : SO3 K} (h : Valid X) : make dbg X.q = .ok X := by
  simp [make, Quat.norm, Quat.sqNorm_eq, checkUnit_sqrt_one dbg h]

/-- on valid operands the renormalisation branch of `compose` is not taken -/
theorem composeRaw_eq {X Y : SO3 K} (hX : Valid X) (hY : Valid Y) :
    composeRaw X Y = X.q.mul Y.q := by
  have hn : (X.q.mul Y.q).sqNorm = 1 := by rw [Quat.sqNorm_eq, Quat.mul_unit _ _ hX hY]
  simp [composeRaw, hn, eps_not_neg]

-- `compose_okK`, `inverse_okK` (here and for SE3, SE_2(3), SGal(3)): over any field `K`; `compose_ok`, `inverse_ok` of
-- these four groups are the statements at ℝ (ApiQuat.lean)
theorem compose_okK (dbg : Bool) {X Y : SO3 K} (hX : Valid X) (hY : Valid Y) :
    compose dbg X Y = .ok ⟨X.q.mul Y.q⟩ := by
  rw [compose, composeRaw_eq hX hY]
  exact make_ok dbg (X := ⟨X.q.mul Y.q⟩) (Quat.mul_unit _ _ hX hY)

theorem inverse_okK (dbg : Bool) {X : SO3 K} (hX : Valid X) : inverse dbg X = .ok ⟨X.q.conj⟩ :=
  make_ok dbg (X := ⟨X.q.conj⟩) (Quat.conj_unit X.q hX)

theorem okGroup : (so3Ops (K := K)).OkGroup Valid mul inv one where
  compose_ok dbg _ _ hX hY := compose_okK dbg hX hY
  inverse_ok dbg _ hX := inverse_okK dbg hX
  valid_mul hX hY := Quat.mul_unit _ _ hX hY
  valid_inv hX := Quat.conj_unit _ hX
  valid_one := Quat.sqn_one
  mul_inv_cancel_left hX _ := congrArg SO3.mk (Quat.mul_conj_cancel_left _ _ hX)
  inv_mul_cancel_left hX _ := congrArg SO3.mk (Quat.conj_mul_cancel_left _ _ hX)
  mul_one _ := congrArg SO3.mk (Quat.mul_one _)

/-- `exp 0` takes the small-angle branch `(0/2, 0/2, 0/2, 1)` -/
theorem exp_zero (dbg : Bool) : SO3T.exp dbg (⟨⟨0, 0, 0⟩⟩ : SO3T K) = .ok one := by
  have := make_ok dbg (okGroup (K := K)).valid_one
  simpa [SO3T.exp, SO3T.expRaw, V3.sqNorm, sum3, eps_not_neg, one] using this

/-- **C01/SO3 compose** -/
theorem toMat_compose (dbg : Bool) {X Y : SO3 K} (hX : Valid X) (hY : Valid Y) :
    ∃ Z, compose dbg X Y = .ok Z ∧ Valid Z ∧ toMat Z = toMat X * toMat Y :=
  okGroup.map_compose toMat toMat_mul dbg hX hY

/-- **C01/SO3 inverse** -/
theorem toMat_inverse (dbg : Bool) {X : SO3 K} (hX : Valid X) :
    ∃ Z, inverse dbg X = .ok Z ∧ Valid Z ∧ toMat Z * toMat X = 1 ∧ toMat X * toMat Z = 1 :=
  okGroup.map_inverse toMat toMat_mul toMat_one dbg hX

/-- **C01/SO3 identity** (`exp 0`). -/
theorem toMat_identity (dbg : Bool) :
    ∃ Z : SO3 K, SO3T.exp dbg ⟨⟨0, 0, 0⟩⟩ = .ok Z ∧ Valid Z ∧ toMat Z = 1 :=
  okGroup.map_one toMat toMat_one (exp_zero dbg)

/-- **C01/SO3 act** -/
theorem act_eq (X : SO3 K) (p : V3 K) :
    homog3 (act X p) = (toMat X).mulVec (homog3 p) := by
  rw [toMat_eq, hom4_mulVec]; congr 1
  simp [act, V3.add]

/-- a rational unit quaternion in the `w < 0` hemisphere and its antipode in `w > 0`. -/
example : Valid (⟨⟨2/5, 2/5, 4/5, -1/5⟩⟩ : SO3 ℚ) ∧ Valid (⟨⟨-2/5, -2/5, -4/5, 1/5⟩⟩ : SO3 ℚ) := by
  constructor <;> norm_num [Valid, Quat.sqn]
end SO3

namespace SE3
def Valid (X : SE3 K) : Prop := X.q.sqn = 1
def toMat (X : SE3 K) : Matrix (Fin 4) (Fin 4) K := matOfRows 4 X.transformRows

section coordinates
omit [IsStrictOrderedRing K] [LawfulTransc K]

def mul (X Y : SE3 K) : SE3 K := ⟨(X.q.toRot.mulVec Y.t).add X.t, X.q.mul Y.q⟩
def inv (X : SE3 K) : SE3 K := ⟨(X.q.conj.toRot.mulVec X.t).neg, X.q.conj⟩
def one : SE3 K := ⟨⟨0, 0, 0⟩, ⟨0, 0, 0, 1⟩⟩

protected theorem mul_inv_cancel_left {X : SE3 K} (hX : Valid X) (Y : SE3 K) : mul X (mul (inv X) Y) = Y := by
  simp only [mul, inv, Quat.mul_conj_cancel_left _ _ hX, M3.mulVec_add, M3.mulVec_neg,
    Quat.toRot_mulVec_conj _ hX, V3.neg_add_cancel_right]

protected theorem inv_mul_cancel_left {X : SE3 K} (hX : Valid X) (Y : SE3 K) : mul (inv X) (mul X Y) = Y := by
  simp only [mul, inv, Quat.conj_mul_cancel_left _ _ hX, M3.mulVec_add, Quat.conj_toRot_mulVec _ hX,
    V3.add_neg_cancel_right]

protected theorem mul_one (X : SE3 K) : mul X one = X := by
  simp only [mul, one, Quat.mul_one, M3.mulVec_zero, V3.zero_add]

theorem toMat_eq (X : SE3 K) : toMat X = hom4 X.rotation X.t := by
  rw [toMat, transformRows, matOfRows_lit4]
  simp only [scalar_nat, Nat.cast_zero, Nat.cast_one]
  rfl

theorem toMat_mul {X Y : SE3 K} (hX : Valid X) (hY : Valid Y) : toMat (mul X Y) = toMat X * toMat Y := by
  rw [toMat_eq, toMat_eq, toMat_eq, hom4_mul]
  simp only [mul, rotation, SO3.rotation, asSO3, Quat.toRot_mul _ _ hX hY]

theorem toMat_one : toMat (one : SE3 K) = 1 := by
  rw [toMat_eq, one, rotation, SO3.rotation, asSO3, Quat.toRot_one, hom4_one]
end coordinates

theorem make_ok' (dbg : Bool) (t : V3 K) {q : Quat K} (h : q.sqn = 1) :
    make dbg t q = .ok ⟨t, q⟩ := by
  simp [make, Quat.norm, Quat.sqNorm_eq, checkUnit_sqrt_one dbg h]

theorem compose_okK (dbg : Bool) {X Y : SE3 K} (hX : Valid X) (hY : Valid Y) :
    compose dbg X Y = .ok ⟨(X.rotation.mulVec Y.t).add X.t, X.q.mul Y.q⟩ := by
  have h1 : SO3.compose dbg X.asSO3 Y.asSO3 = .ok ⟨X.q.mul Y.q⟩ := SO3.compose_okK dbg hX hY
  simp only [compose, h1, except_ok_bind]
  exact make_ok' dbg _ (Quat.mul_unit _ _ hX hY)

theorem inverse_okK (dbg : Bool) {X : SE3 K} (hX : Valid X) :
    inverse dbg X = .ok ⟨((SO3.mk X.q.conj).act X.t).neg, X.q.conj⟩ := by
  have h1 : SO3.inverse dbg X.asSO3 = .ok ⟨X.q.conj⟩ := SO3.inverse_okK dbg hX
  simp only [inverse, h1, except_ok_bind]
  exact make_ok' dbg _ (Quat.conj_unit X.q hX)

theorem okGroup : (se3Ops (K := K)).OkGroup Valid mul inv one where
  compose_ok dbg _ _ hX hY := compose_okK dbg hX hY
  inverse_ok dbg _ hX := inverse_okK dbg hX
  valid_mul hX hY := Quat.mul_unit _ _ hX hY
  valid_inv hX := Quat.conj_unit _ hX
  valid_one := Quat.sqn_one
  mul_inv_cancel_left := SE3.mul_inv_cancel_left
  inv_mul_cancel_left := SE3.inv_mul_cancel_left
  mul_one := SE3.mul_one

theorem exp_zero (dbg : Bool) : SE3T.exp dbg (⟨⟨0, 0, 0⟩, ⟨0, 0, 0⟩⟩ : SE3T K) = .ok ⟨⟨0, 0, 0⟩, ⟨0, 0, 0, 1⟩⟩ := by
  simp only [SE3T.exp, SE3T.asSO3, SO3.exp_zero, SO3.one, bind, Except.bind, M3.mulVec_zero]
  exact make_ok' dbg _ Quat.sqn_one

/-- **C01/SE3 compose** -/
theorem toMat_compose (dbg : Bool) {X Y : SE3 K} (hX : Valid X) (hY : Valid Y) :
    ∃ Z, compose dbg X Y = .ok Z ∧ Valid Z ∧ toMat Z = toMat X * toMat Y :=
  okGroup.map_compose toMat toMat_mul dbg hX hY

/-- **C01/SE3 inverse** -/
theorem toMat_inverse (dbg : Bool) {X : SE3 K} (hX : Valid X) :
    ∃ Z, inverse dbg X = .ok Z ∧ Valid Z ∧ toMat Z * toMat X = 1 ∧ toMat X * toMat Z = 1 :=
  okGroup.map_inverse toMat toMat_mul toMat_one dbg hX

/-- **C01/SE3 identity** -/
theorem toMat_identity (dbg : Bool) :
    ∃ Z : SE3 K, SE3T.exp dbg ⟨⟨0, 0, 0⟩, ⟨0, 0, 0⟩⟩ = .ok Z ∧ Valid Z ∧ toMat Z = 1 :=
  okGroup.map_one toMat toMat_one (exp_zero dbg)

/-- **C01/SE3 act** -/
theorem act_eq (X : SE3 K) (p : V3 K) :
    homog3 (act X p) = (toMat X).mulVec (homog3 p) := by
  rw [toMat_eq, hom4_mulVec]; rfl

example : Valid (⟨⟨1000000, -2, 1/1000⟩, ⟨2/5, 2/5, 4/5, -1/5⟩⟩ : SE3 ℚ) := by
  norm_num [Valid, Quat.sqn]
end SE3

end Manif
