/-
  C06 — rjac/ljac, their inverses, Adj and adj satisfy their defining identities.
  This file: what holds over every ordered field with lawful sin/cos — `Jl(t) = Jr(−t)` and
  `Jr⁻¹(t) = Jl⁻¹(−t)` (SE2, SO3, SE3, SE_2(3)), `Adj_X s = vee(X hat(s) X⁻¹)` (SE2, SO3, SE3),
  `Adj(XY) = Adj(X) Adj(Y)` (SE2, SO3, SE3, SE_2(3)), and for SE2 also `J⁻¹ J = I` and `Adj(exp t) = Jl Jr⁻¹`
  (the closed forms are rational in `sin θ`, `cos θ`, `θ`).  What needs the reals (SO3's closed forms with `√`,
  hence SE3 and SE_2(3)) is in C06b.
-/
import ManifProofs.Properties.C01
import ManifProofs.Properties.C01b
import ManifProofs.Properties.C07
import ManifProofs.Lemmas.Block

namespace Manif
open Matrix

variable {K : Type} [Field K] [LinearOrder K] [IsStrictOrderedRing K] [Transc K] [LawfulTransc K]

attribute [ext] M9

namespace SE2T

/-- **`ljac = (-t).rjac`** in both branches (the branch predicate `θ⁴ < eps` is even). -/
theorem ljac_eq_rjac_neg (t : SE2T K) : ljac t = rjac (neg t) := by
  have hs := LawfulTransc.sin_neg (K := K) t.ang
  have hc := LawfulTransc.cos_neg (K := K) t.ang
  have hsq : -t.ang * -t.ang = t.ang * t.ang := neg_mul_neg _ _
  unfold ljac rjac expJ neg coefAB
  simp only [scalar_sin, scalar_cos, scalar_lt, scalar_eps, scalar_nat, scalar_rat, hs, hc, hsq]
  by_cases h : t.ang * t.ang * (t.ang * t.ang) < Transc.eps
  · simp only [h, decide_true, if_true]
    ext <;> simp only [Nat.cast_ofNat, Nat.cast_one, Nat.cast_zero] <;> ring1
  · simp only [h, decide_false, if_false, Bool.false_eq_true]
    ext <;> simp only [Nat.cast_one, Nat.cast_zero] <;> ring1

/-- **`ljacinv = (-t).rjacinv`** in both branches (`θ⁸` is even, `sin` odd, `cos` even). -/
theorem ljacinv_eq_rjacinv_neg (t : SE2T K) : ljacinv t = rjacinv (neg t) := by
  have hs := LawfulTransc.sin_neg (K := K) t.ang
  have hc := LawfulTransc.cos_neg (K := K) t.ang
  have hsq : -t.ang * -t.ang = t.ang * t.ang := neg_mul_neg _ _
  unfold ljacinv rjacinv neg
  simp only [scalar_sin, scalar_cos, hs, hc, hsq]
  refine ite_congr rfl (fun _ => ?_) (fun _ => ?_) <;> ext <;>
    simp only [scalar_nat, scalar_rat, Nat.cast_ofNat, Nat.cast_one, Nat.cast_zero] <;> ring1

-- the closed-form branch of each member, resolved
section
omit [IsStrictOrderedRing K] [LawfulTransc K]

theorem rjac_generic (t : SE2T K) (h1 : ¬ t.ang * t.ang * (t.ang * t.ang) < Transc.eps) :
    rjac t = ⟨Transc.sin t.ang / t.ang, (1 - Transc.cos t.ang) / t.ang,
        (-t.y + t.ang * t.x + t.y * Transc.cos t.ang - t.x * Transc.sin t.ang) / (t.ang * t.ang),
      -((1 - Transc.cos t.ang) / t.ang), Transc.sin t.ang / t.ang,
        (t.x + t.ang * t.y - t.x * Transc.cos t.ang - t.y * Transc.sin t.ang) / (t.ang * t.ang),
      0, 0, 1⟩ := by
  simp only [rjac, expJ, coefAB, scalar_lt, scalar_eps, h1, decide_false, Bool.false_eq_true, if_false,
    scalar_sin, scalar_cos, scalar_nat, Nat.cast_zero, Nat.cast_one]

theorem ljac_generic (t : SE2T K) (h1 : ¬ t.ang * t.ang * (t.ang * t.ang) < Transc.eps) :
    ljac t = ⟨Transc.sin t.ang / t.ang, -((1 - Transc.cos t.ang) / t.ang),
        (t.y + t.ang * t.x - t.y * Transc.cos t.ang - t.x * Transc.sin t.ang) / (t.ang * t.ang),
      (1 - Transc.cos t.ang) / t.ang, Transc.sin t.ang / t.ang,
        (-t.x + t.ang * t.y + t.x * Transc.cos t.ang - t.y * Transc.sin t.ang) / (t.ang * t.ang),
      0, 0, 1⟩ := by
  simp only [ljac, coefAB, scalar_lt, scalar_eps, h1, decide_false, Bool.false_eq_true, if_false,
    scalar_sin, scalar_cos, scalar_nat, Nat.cast_zero, Nat.cast_one]

theorem rjacinv_generic (t : SE2T K)
    (h3 : Transc.eps < t.ang * t.ang * (t.ang * t.ang) * (t.ang * t.ang) * (t.ang * t.ang)) :
    rjacinv t = ⟨-(t.ang * Transc.sin t.ang) / (2 * Transc.cos t.ang - 2), -t.ang * (1 / 2),
        t.y / 2 + (1 / t.ang - Transc.sin t.ang / (2 * (1 - Transc.cos t.ang))) * t.x,
      -(-t.ang * (1 / 2)), -(t.ang * Transc.sin t.ang) / (2 * Transc.cos t.ang - 2),
        -t.x / 2 + (1 / t.ang - Transc.sin t.ang / (2 * (1 - Transc.cos t.ang))) * t.y,
      0, 0, 1⟩ := by
  simp only [rjacinv, scalar_gt, scalar_eps, h3, decide_true, if_true, scalar_sin, scalar_cos,
    scalar_nat, scalar_rat, Nat.cast_zero, Nat.cast_one, Nat.cast_ofNat]

theorem adj_expRaw_generic (t : SE2T K) (h1 : ¬ t.ang * t.ang * (t.ang * t.ang) < Transc.eps) :
    SE2.adj (expRaw t) = ⟨Transc.cos t.ang, -Transc.sin t.ang,
        (1 - Transc.cos t.ang) / t.ang * t.x + Transc.sin t.ang / t.ang * t.y,
      Transc.sin t.ang, Transc.cos t.ang,
        -(Transc.sin t.ang / t.ang * t.x - (1 - Transc.cos t.ang) / t.ang * t.y), 0, 0, 1⟩ := by
  simp only [SE2.adj, expRaw, coefAB, scalar_lt, scalar_eps, h1, decide_false, Bool.false_eq_true, if_false,
    scalar_sin, scalar_cos, scalar_nat, Nat.cast_zero, Nat.cast_one]
end

/-- **`smallAdj`** is the matrix of `ad_t`: `hat(smallAdj t · s) = [hat t, hat s]` (C07). -/
theorem smallAdj_apply (a b : SE2T K) :
    let c := (smallAdj a).mulVec ⟨b.x, b.y, b.ang⟩
    (hat ⟨c.x, c.y, c.z⟩).toMatrix =
      (hat a).toMatrix * (hat b).toMatrix - (hat b).toMatrix * (hat a).toMatrix :=
  bracket_hat a b

/-- **SE2: `Jr⁻¹ · Jr = I`** on the generic branch (θ⁸ > eps: not in any Taylor branch),
    over every ordered field with lawful sin/cos, provided `cos θ ≠ 1`.  `h1` takes `rjac` off its Taylor branch
    (`θ⁴ < eps`), `h3` takes `rjacinv` off its own (`θ⁸ ≤ eps`). -/
theorem rjacinv_mul_rjac (t : SE2T K)
    (h1 : ¬ t.ang * t.ang * (t.ang * t.ang) < Transc.eps)
    (h2 : Transc.eps < t.ang * t.ang * (t.ang * t.ang))
    (h3 : Transc.eps < t.ang * t.ang * (t.ang * t.ang) * (t.ang * t.ang) * (t.ang * t.ang))
    (hθ : t.ang ≠ 0) (hc : Transc.cos t.ang ≠ 1) :
    (rjacinv t).mul (rjac t) = M3.one := by
  have hsc := LawfulTransc.sin_sq_add_cos_sq t.ang
  rw [rjac_generic t h1, rjacinv_generic t h3, M3.affine_mul, M3.one_eq]
  obtain ⟨x, y, θ⟩ := t
  simp only at hsc hθ hc ⊢
  generalize Transc.sin θ = s at hsc ⊢
  generalize Transc.cos θ = c at hsc hc ⊢
  have hc' : 1 - c ≠ 0 := fun e => hc (by linarith)
  have hc'' : 2 * c - 2 ≠ 0 := fun e => hc (by linarith)
  -- the six entries of the affine product; the rotation block and the translation column need `s² + c² = 1`
  congr 1
  · field_simp; linear_combination (-1 : K) * hsc
  · field_simp; ring1
  · field_simp; linear_combination (x * (1 - c)) * hsc
  · field_simp; ring1
  · field_simp; linear_combination (-1 : K) * hsc
  · field_simp; linear_combination (y * (1 - c)) * hsc

/-- **SE2: `Jl⁻¹ · Jl = I`** on the generic branch (θ⁸ > eps: not in any Taylor branch),
    over every ordered field with lawful sin/cos, provided `cos θ ≠ 1`: the right-hand identity at `−t`. -/
theorem ljacinv_mul_ljac (t : SE2T K)
    (h1 : ¬ t.ang * t.ang * (t.ang * t.ang) < Transc.eps)
    (h2 : Transc.eps < t.ang * t.ang * (t.ang * t.ang))
    (h3 : Transc.eps < t.ang * t.ang * (t.ang * t.ang) * (t.ang * t.ang) * (t.ang * t.ang))
    (hθ : t.ang ≠ 0) (hc : Transc.cos t.ang ≠ 1) :
    (ljacinv t).mul (ljac t) = M3.one := by
  have e : (neg t).ang * (neg t).ang = t.ang * t.ang := neg_mul_neg _ _
  rw [ljacinv_eq_rjacinv_neg, ljac_eq_rjac_neg]
  apply rjacinv_mul_rjac (neg t)
  · rwa [e]
  · rwa [e]
  · rwa [e]
  · exact neg_ne_zero.mpr hθ
  · rwa [show (neg t).ang = -t.ang from rfl, LawfulTransc.cos_neg]

/-- **SE2: `Adj(exp t) = Jl(t) · Jr(t)⁻¹`** on the closed-form branch (`θ⁸ > eps`, `cos θ ≠ 1`), every ordered field. -/
theorem adj_exp (t : SE2T K)
    (h1 : ¬ t.ang * t.ang * (t.ang * t.ang) < Transc.eps)
    (h3 : Transc.eps < t.ang * t.ang * (t.ang * t.ang) * (t.ang * t.ang) * (t.ang * t.ang))
    (hθ : t.ang ≠ 0) (hc : Transc.cos t.ang ≠ 1) :
    SE2.adj (expRaw t) = (ljac t).mul (rjacinv t) := by
  have hsc := LawfulTransc.sin_sq_add_cos_sq t.ang
  rw [adj_expRaw_generic t h1, ljac_generic t h1, rjacinv_generic t h3, M3.affine_mul]
  obtain ⟨x, y, θ⟩ := t
  simp only at hsc hθ hc ⊢
  generalize Transc.sin θ = s at hsc ⊢
  generalize Transc.cos θ = c at hsc hc ⊢
  have hc' : 1 - c ≠ 0 := fun e => hc (by linarith)
  have hc'' : 2 * c - 2 ≠ 0 := fun e => hc (by linarith)
  congr 1
  · field_simp; linear_combination hsc
  · field_simp; ring1
  · field_simp; linear_combination (θ * x) * hsc
  · field_simp; ring1
  · field_simp; linear_combination hsc
  · field_simp; linear_combination (θ * y) * hsc

end SE2T

namespace SE2

/-- **`X.adj() s` is the vector of `X hat(s) X⁻¹`**, stated without the inverse:
    `hat(Adj s) · T(X) = T(X) · hat(s)`. -/
theorem adj_apply (X : SE2 K) (hX : Valid X) (s : SE2T K) :
    let c := (adj X).mulVec ⟨s.x, s.y, s.ang⟩
    (SE2T.hat ⟨c.x, c.y, c.z⟩).toMatrix * toMat X = toMat X * (SE2T.hat s).toMatrix := by
  simp only [toMat, ← M3.toMatrix_mul]
  congr 1
  ext <;> msimp [adj, SE2T.hat, transform, M3.mulVec, M3.mul] <;> ring1

/-- **`Adj(X·Y) = Adj(X)·Adj(Y)`** on valid elements. -/
theorem adj_compose {X Y : SE2 K} (hX : Valid X) (hY : Valid Y) :
    adj (composeRaw X Y) = (adj X).mul (adj Y) := by
  rw [composeRaw_eq hX hY]
  simp only [adj, mul, scalar_nat, Nat.cast_zero, Nat.cast_one, M3.affine_mul]
  congr 1 <;> ring1

end SE2

namespace SO3T

/-- `rjac = ljacᵀ` is how the source defines it; `ljac(-t) = ljacᵀ` because `hat` is skew and
    the coefficients depend on `θ²` only.  Together: **`ljac t = rjac (-t)`**. -/
theorem ljac_eq_rjac_neg (t : SO3T K) : ljac t = rjac (neg t) := by
  unfold rjac ljac
  simp only [V3.sqNorm_neg, hat, neg, M3.skew_neg_eq_transpose, apply_ite M3.transpose, M3.transpose_add,
    M3.transpose_one, M3.transpose_smul, M3.transpose_mul, M3.transpose_transpose, M3.smul_mul]

/-- likewise `Jr⁻¹(t) = Jl⁻¹(−t)`: transposition is an anti-automorphism and `hat (−t) = (hat t)ᵀ`. -/
theorem rjacinv_eq_ljacinv_neg (t : SO3T K) : rjacinv t = ljacinv (neg t) := by
  unfold rjacinv ljacinv
  simp only [V3.sqNorm_neg, hat, neg, M3.skew_neg_eq_transpose, apply_ite M3.transpose, M3.transpose_add,
    M3.transpose_sub, M3.transpose_one, M3.transpose_smul, M3.transpose_mul, M3.smul_mul]

theorem rjac_neg (v : V3 K) : rjac ⟨v.neg⟩ = ljac ⟨v⟩ := (ljac_eq_rjac_neg ⟨v⟩).symm
theorem ljacinv_neg (v : V3 K) : ljacinv ⟨v.neg⟩ = rjacinv ⟨v⟩ := (rjacinv_eq_ljacinv_neg ⟨v⟩).symm

end SO3T

namespace SO3

/-- **`X.adj() s` is the vector of `X hat(s) X⁻¹`** (`X⁻¹ = Xᵀ` on the rotation block). -/
theorem adj_apply (X : SO3 K) (hX : Valid X) (s : SO3T K) :
    SO3T.hat ⟨(adj X).mulVec s.v⟩ = (X.rotation.mul (SO3T.hat s)).mul X.rotation.transpose := by
  -- `[R s]× = [R s]× R Rᵀ = R [s]× Rᵀ`
  simp only [adj, rotation, SO3T.hat]
  rw [← Quat.skew_toRot X.q hX s.v, M3.mul_assoc, Quat.toRot_mul_transpose X.q hX, M3.mul_one]

/-- **`Adj(X·Y) = Adj(X)·Adj(Y)`**. -/
theorem adj_compose {X Y : SO3 K} (hX : Valid X) (hY : Valid Y) :
    adj (⟨composeRaw X Y⟩ : SO3 K) = (adj X).mul (adj Y) := by
  rw [composeRaw_eq hX hY]
  exact Quat.toRot_mul _ _ hX hY

/-- **`rotation()` is orthonormal** on valid elements. -/
theorem rotation_orthonormal (X : SO3 K) (hX : Valid X) :
    X.rotation.mul X.rotation.transpose = M3.one ∧ X.rotation.transpose.mul X.rotation = M3.one :=
  ⟨Quat.toRot_mul_transpose _ hX, Quat.toRot_transpose_mul _ hX⟩

end SO3

namespace SE3

/-- **`X.adj() s` is the vector of `X hat(s) X⁻¹`**, stated without the inverse:
    `hat(Adj s) · T(X) = T(X) · hat(s)` (4×4). -/
theorem adj_apply (X : SE3 K) (hX : Valid X) (s : SE3T K) :
    let A := adj X
    matOfRows 4 (SE3T.hatRows ⟨(A.tl.mulVec s.lin).add (A.tr.mulVec s.ang), (A.bl.mulVec s.lin).add (A.br.mulVec s.ang)⟩) * toMat X =
      toMat X * matOfRows 4 (SE3T.hatRows s) := by
  intro A
  have hang : (A.bl.mulVec s.lin).add (A.br.mulVec s.ang) = X.q.toRot.mulVec s.ang := by
    simp only [A, adj, rotation, SO3.rotation, asSO3, M3.zero_mulVec, V3.zero_add]
  have hlin : (A.tl.mulVec s.lin).add (A.tr.mulVec s.ang) =
      (X.q.toRot.mulVec s.lin).add ((M3.skew X.t).mulVec (X.q.toRot.mulVec s.ang)) := by
    simp only [A, adj, rotation, SO3.rotation, asSO3, M3.mul_mulVec]
  rw [hang, hlin, toMat_eq, SE3T.hatRows_eq_blk, SE3T.hatRows_eq_blk, hom4_eq_blk, blk_mul, blk_mul]
  simp only [show X.rotation = X.q.toRot from rfl]
  -- rotation block: `[R a]× R = R [a]×`; column: `[R a]× t + (R l + [t]× R a) = R l`, the cross products cancel
  rw [← M3.toMatrix_mul, ← M3.toMatrix_mul, Quat.skew_toRot _ hX, mul_col1, mul_col1, Matrix.mul_one, Matrix.mul_zero,
    Matrix.mul_zero, add_zero, col1_add, ← M3.toVec_mulVec, ← M3.toVec_mulVec, ← V3.toVec_add,
    M3.skew_mulVec_anticomm (X.q.toRot.mulVec s.ang) X.t, V3.add_comm, V3.add_neg_cancel_right, Matrix.zero_mul]

/-- **`Adj(X·Y) = Adj(X)·Adj(Y)`** on valid elements (6×6). -/
theorem adj_compose (X Y : SE3 K) (hX : Valid X) (hY : Valid Y) :
    (adj (⟨(X.rotation.mulVec Y.t).add X.t, X.q.mul Y.q⟩ : SE3 K)).toMatrix = (adj X).toMatrix * (adj Y).toMatrix := by
  unfold Valid at hX hY
  have hR : (X.q.mul Y.q).toRot = X.q.toRot.mul Y.q.toRot := Quat.toRot_mul _ _ hX hY
  have hs := Quat.skew_toRot X.q hX Y.t
  simp only [adj, rotation, SO3.rotation, asSO3, M6.toMatrix, Matrix.fromBlocks_multiply, hR, M3.skew_add,
    M3.toMatrix_mul, M3.toMatrix_add, M3.toMatrix_zero, mul_zero, zero_mul, add_zero, zero_add]
  congr 1
  have hs' := congrArg M3.toMatrix hs
  simp only [M3.toMatrix_mul] at hs'
  rw [add_mul, ← Matrix.mul_assoc, hs', Matrix.mul_assoc, Matrix.mul_assoc, add_comm]

end SE3

namespace SE3T

def neg' (t : SE3T K) : SE3T K := ⟨t.lin.neg, t.ang.neg⟩

/-- **`ljac t = rjac (−t)`** for SE3 (6×6, with the `Q` block). -/
theorem ljac_eq_rjac_neg (t : SE3T K) : ljac t = rjac ⟨t.lin.neg, t.ang.neg⟩ := by
  unfold ljac rjac
  simp only [asSO3, V3.neg_neg, SO3T.rjac_neg]

/-- **`Jr⁻¹(t) = Jl⁻¹(−t)`** for SE3 (with the `Q` block), every ordered field -/
theorem rjacinv_eq_ljacinv_neg {K : Type} [Field K] [LinearOrder K] [IsStrictOrderedRing K] [Transc K] [LawfulTransc K]
    (t : SE3T K) : rjacinv t = ljacinv ⟨t.lin.neg, t.ang.neg⟩ := by
  unfold rjacinv ljacinv
  simp only [asSO3, SO3T.ljacinv_neg]

theorem rjac_eq_ljac_neg (t : SE3T K) : rjac t = ljac ⟨t.lin.neg, t.ang.neg⟩ := by
  have h := ljac_eq_rjac_neg (⟨t.lin.neg, t.ang.neg⟩ : SE3T K)
  simp only [V3.neg_neg] at h
  rw [h]

end SE3T

namespace SE23T

/-- **`Jl(t) = Jr(−t)`** for SE_2(3), with both `Q` blocks, every ordered field -/
theorem ljac_eq_rjac_neg {K : Type} [Field K] [LinearOrder K] [IsStrictOrderedRing K] [Transc K] [LawfulTransc K]
    (t : SE23T K) : ljac t = rjac (neg t) := by
  unfold ljac rjac neg
  simp only [asSO3, V3.neg_neg, SO3T.rjac_neg]

theorem rjacinv_eq_ljacinv_neg {K : Type} [Field K] [LinearOrder K] [IsStrictOrderedRing K] [Transc K] [LawfulTransc K]
    (t : SE23T K) : rjacinv t = ljacinv (neg t) := by
  unfold rjacinv ljacinv neg
  simp only [asSO3, SO3T.ljacinv_neg]

theorem rjac_eq_ljac_neg (t : SE23T K) : rjac t = ljac (neg t) := by
  have h := ljac_eq_rjac_neg (neg t)
  have e : neg (neg t) = t := by cases t; simp only [neg, V3.neg_neg]
  rw [e] at h
  exact h.symm

end SE23T

namespace SE23

/-- **`Adj(X·Y) = Adj(X)·Adj(Y)`** for SE_2(3) (9×9, the model's block product) on valid elements. -/
theorem adj_compose (X Y : SE23 K) (hX : Valid X) (hY : Valid Y) :
    adj (⟨(X.rotation.mulVec Y.t).add X.t, X.q.mul Y.q, (X.rotation.mulVec Y.v).add X.v⟩ : SE23 K) = (adj X).mul (adj Y) := by
  unfold Valid at hX hY
  have hR : (X.q.mul Y.q).toRot = X.q.toRot.mul Y.q.toRot := Quat.toRot_mul _ _ hX hY
  have hs1 := congrArg M3.toMatrix (Quat.skew_toRot X.q hX Y.t)
  have hs2 := congrArg M3.toMatrix (Quat.skew_toRot X.q hX Y.v)
  simp only [M3.toMatrix_mul] at hs1 hs2
  unfold adj M9.mul
  simp only [rotation, SO3.rotation, asSO3, hR, M3.skew_add]
  apply M9.ext <;> apply M3.toMatrix_injective <;>
    simp only [M3.toMatrix_mul, M3.toMatrix_add, M3.toMatrix_zero, mul_zero, zero_mul, add_zero, zero_add]
  -- left are the blocks with a translation: `[R_X t_Y + t_X]× R_X R_Y = R_X [t_Y]× R_Y + [t_X]× R_X R_Y`, same for `v`
  · rw [add_mul, ← Matrix.mul_assoc, hs1, Matrix.mul_assoc, Matrix.mul_assoc, add_comm]
  · rw [add_mul, ← Matrix.mul_assoc, hs2, Matrix.mul_assoc, Matrix.mul_assoc, add_comm]

end SE23

end Manif
