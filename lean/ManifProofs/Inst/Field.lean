/-
  Inst/Field.lean — the model's `Scalar` class instantiated at an arbitrary linearly ordered
  field `K` whose transcendental operations (`sin cos sqrt atan2`) and threshold `eps` are
  supplied by a `Transc K` structure.  Algebraic theorems are proved for *every* such `K`
  (ℚ included: they never unfold `sin`…), which is the "exact when instantiated over an exact
  scalar" clause of the properties; analytic theorems use the `Transc ℝ` instance of
  `Inst/Real.lean`.
-/
import ManifModel
import Mathlib.Algebra.Order.Field.Basic
import Mathlib.Algebra.Order.AbsoluteValue.Basic

namespace Manif

/-- transcendental operations + threshold, as data. -/
class Transc (K : Type) where
  sin : K → K
  cos : K → K
  sqrt : K → K
  atan2 : K → K → K
  eps : K

instance instScalarOfField {K : Type} [Field K] [LinearOrder K] [Transc K] : Scalar K where
  ofNat n := (n : K)
  sin := Transc.sin
  cos := Transc.cos
  sqrt := Transc.sqrt
  atan2 := Transc.atan2
  abs x := |x|
  lt a b := decide (a < b)
  le a b := decide (a ≤ b)
  eps := Transc.eps

section bridge
variable {K : Type} [Field K] [LinearOrder K] [Transc K]

@[simp] theorem scalar_ofNat (n : ℕ) : (Scalar.ofNat n : K) = (n : K) := rfl
@[simp] theorem scalar_nat (n : ℕ) : (Scalar.nat n : K) = (n : K) := rfl
@[simp] theorem scalar_rat (n d : ℕ) : (Scalar.rat n d : K) = (n : K) / (d : K) := rfl
@[simp] theorem scalar_sin (a : K) : Scalar.sin a = Transc.sin a := rfl
@[simp] theorem scalar_cos (a : K) : Scalar.cos a = Transc.cos a := rfl
@[simp] theorem scalar_sqrt (a : K) : Scalar.sqrt a = Transc.sqrt a := rfl
@[simp] theorem scalar_atan2 (a b : K) : Scalar.atan2 a b = Transc.atan2 a b := rfl
@[simp] theorem scalar_abs (a : K) : Scalar.abs a = |a| := rfl
@[simp] theorem scalar_lt (a b : K) : Scalar.lt a b = decide (a < b) := rfl
@[simp] theorem scalar_le (a b : K) : Scalar.le a b = decide (a ≤ b) := rfl
@[simp] theorem scalar_gt (a b : K) : Scalar.gt a b = decide (b < a) := rfl
@[simp] theorem scalar_eps : (Scalar.eps : K) = Transc.eps := rfl
theorem scalar_min_eq (a b : K) : Scalar.min a b = min a b := by
  unfold Scalar.min
  simp only [scalar_lt, decide_eq_true_eq]
  split
  · next h => exact (min_eq_right h.le).symm
  · next h => exact (min_eq_left (not_lt.mp h)).symm
end bridge

end Manif
