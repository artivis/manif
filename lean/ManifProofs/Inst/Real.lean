/-
  Inst/Real.lean — `Transc ℝ` with Mathlib's functions; `atan2 y x := Complex.arg (x + y i)`.
-/
import ManifProofs.Inst.Laws
import Mathlib.Analysis.SpecialFunctions.Complex.Arg
import Mathlib.Analysis.SpecialFunctions.Sqrt

namespace Manif

/-- `Constants<double>::eps = 100 · 2⁻⁵²` as a real number. -/
noncomputable def realEps : ℝ := 100 / 2 ^ 52

noncomputable instance : Transc ℝ where
  sin := Real.sin
  cos := Real.cos
  sqrt := Real.sqrt
  atan2 y x := Complex.arg ⟨x, y⟩
  eps := realEps

@[simp] theorem transc_sin_real (a : ℝ) : Transc.sin a = Real.sin a := rfl
@[simp] theorem transc_cos_real (a : ℝ) : Transc.cos a = Real.cos a := rfl
@[simp] theorem transc_sqrt_real (a : ℝ) : Transc.sqrt a = Real.sqrt a := rfl
@[simp] theorem transc_atan2_real (y x : ℝ) : Transc.atan2 y x = Complex.arg ⟨x, y⟩ := rfl
@[simp] theorem transc_eps_real : (Transc.eps : ℝ) = realEps := rfl

theorem realEps_pos : 0 < realEps := by unfold realEps; positivity
theorem realEps_lt_one : realEps < 1 := by unfold realEps; norm_num

theorem norm_mk_of_unit {x y : ℝ} (h : x * x + y * y = 1) : ‖(⟨x, y⟩ : ℂ)‖ = 1 := by
  have : ‖(⟨x, y⟩ : ℂ)‖ ^ 2 = 1 := by
    rw [← Complex.normSq_eq_norm_sq]; simp [Complex.normSq_apply, h]
  have h0 : 0 ≤ ‖(⟨x, y⟩ : ℂ)‖ := norm_nonneg _
  nlinarith [sq_nonneg (‖(⟨x, y⟩ : ℂ)‖ - 1), sq_nonneg (‖(⟨x, y⟩ : ℂ)‖ + 1)]

theorem cos_arg_of_unit {x y : ℝ} (h : x * x + y * y = 1) : Real.cos (Complex.arg ⟨x, y⟩) = x := by
  have hn := norm_mk_of_unit h
  have hne : (⟨x, y⟩ : ℂ) ≠ 0 := by
    intro h0; rw [h0] at hn; simp at hn
  rw [Complex.cos_arg hne, hn]; simp

theorem sin_arg_of_unit {x y : ℝ} (h : x * x + y * y = 1) : Real.sin (Complex.arg ⟨x, y⟩) = y := by
  have hn := norm_mk_of_unit h
  rw [Complex.sin_arg, hn]; simp

/-- `atan2 (sin a) (cos a) = a` on the principal range -/
theorem arg_cos_sin (a : ℝ) (h1 : -Real.pi < a) (h2 : a ≤ Real.pi) :
    Complex.arg ⟨Real.cos a, Real.sin a⟩ = a := by
  have : (⟨Real.cos a, Real.sin a⟩ : ℂ) = Complex.cos a + Complex.sin a * Complex.I := by
    apply Complex.ext <;> simp [Complex.cos_ofReal_re, Complex.sin_ofReal_re]
  rw [this]
  exact Complex.arg_cos_add_sin_mul_I ⟨h1, h2⟩

theorem sqrt_pos_sq {n : ℝ} (h : realEps < n) : 0 < Real.sqrt n ∧ Real.sqrt n ^ 2 = n :=
  have hp := lt_trans realEps_pos h
  ⟨Real.sqrt_pos.mpr hp, Real.sq_sqrt hp.le⟩

/-- a squared norm above the switch-over, with the norm as a variable -/
theorem exists_norm {n2 : ℝ} (h : realEps < n2) : ∃ θ : ℝ, 0 < θ ∧ θ ^ 2 = n2 ∧ realEps < θ ^ 2 :=
  ⟨_, (sqrt_pos_sq h).1, (sqrt_pos_sq h).2, (sqrt_pos_sq h).2.symm ▸ h⟩

theorem sin_eq_half (θ : ℝ) : Real.sin θ = 2 * Real.sin (θ / 2) * Real.cos (θ / 2) := by
  rw [← Real.sin_two_mul, mul_div_cancel₀ θ two_ne_zero]

theorem cos_eq_half (θ : ℝ) : Real.cos θ = 1 - 2 * Real.sin (θ / 2) ^ 2 := by
  conv_lhs => rw [← mul_div_cancel₀ θ two_ne_zero, Real.cos_two_mul, Real.cos_sq']
  ring

instance : LawfulTransc ℝ where
  eps_pos := realEps_pos
  eps_lt_one := realEps_lt_one
  sqrt_one := Real.sqrt_one
  sqrt_nonneg := Real.sqrt_nonneg
  sqrt_mul_self := fun a h => Real.mul_self_sqrt h
  sin_sq_add_cos_sq := fun a => by
    have := Real.sin_sq_add_cos_sq a; simp only [transc_sin_real, transc_cos_real]; nlinarith
  sin_zero := Real.sin_zero
  cos_zero := Real.cos_zero
  sin_neg := Real.sin_neg
  cos_neg := Real.cos_neg
  cos_atan2 := fun x y h => cos_arg_of_unit h
  sin_atan2 := fun x y h => sin_arg_of_unit h

end Manif
