/-
  Lemmas/DualLemmas.lean — dual numbers over a field.
  * Projections of the dual-number operations (the simp set `dual_proj`), so that an identity between
    dual-number expressions becomes two identities in the base field: the real part (the primal
    computation) and the dual part (the derivative).  (C12's `Dual.re_*` are the real parts again, for any `Scalar`
    instance and in the class's own operations; here both parts land in the field's operations, where `ring` works.)
  * ε-splitting: a dual vector / matrix / quaternion is `a + ε b` (`V3.dual`, `M3.dual`, `Quat.dual`)
    and the model's bilinear kernels obey the Leibniz rule.  Rewriting with the lemmas tagged
    `eps_split` brings a dual vector expression to the form `V3.dual (value) (derivative)`; what is
    left to prove lives in `V3 K`.
  * The lifted and the infinitesimal quaternion / vector of the C05 statements (`SO3.liftQ`, `SO3.pertQ`,
    `SE3.liftV`, `SE3.epsV`) in that form, their products, and the rotation matrix of `q · exp(εd)`.
-/
import ManifProofs.Lemmas.Attr
import ManifProofs.Lemmas.Quat

namespace Manif
variable {K : Type} [Field K] [LinearOrder K] [Transc K]

@[simp] theorem dual_add_re (a b : Dual K) : (a + b).re = a.re + b.re := rfl
@[simp] theorem dual_add_du (a b : Dual K) : (a + b).du = a.du + b.du := rfl
@[simp] theorem dual_sub_re (a b : Dual K) : (a - b).re = a.re - b.re := rfl
@[simp] theorem dual_sub_du (a b : Dual K) : (a - b).du = a.du - b.du := rfl
@[simp] theorem dual_mul_re (a b : Dual K) : (a * b).re = a.re * b.re := rfl
@[simp] theorem dual_mul_du (a b : Dual K) : (a * b).du = a.re * b.du + a.du * b.re := rfl
@[simp] theorem dual_div_re (a b : Dual K) : (a / b).re = a.re / b.re := rfl
@[simp] theorem dual_div_du (a b : Dual K) :
    (a / b).du = (a.du * b.re - a.re * b.du) / (b.re * b.re) := rfl
@[simp] theorem dual_neg_re (a : Dual K) : (-a).re = -a.re := rfl
@[simp] theorem dual_neg_du (a : Dual K) : (-a).du = -a.du := rfl
@[simp] theorem dual_nat_re (n : ℕ) : (Scalar.nat n : Dual K).re = (n : K) := rfl
@[simp] theorem dual_nat_du (n : ℕ) : (Scalar.nat n : Dual K).du = 0 := by
  show (Scalar.ofNat 0 : K) = 0
  simp
@[simp] theorem dual_ofNat_re (n : ℕ) : (Scalar.ofNat n : Dual K).re = (n : K) := rfl
@[simp] theorem dual_ofNat_du (n : ℕ) : (Scalar.ofNat n : Dual K).du = 0 := dual_nat_du n
@[simp] theorem dual_sin_re (a : Dual K) : (Scalar.sin a).re = Transc.sin a.re := rfl
@[simp] theorem dual_sin_du (a : Dual K) : (Scalar.sin a).du = Transc.cos a.re * a.du := rfl
@[simp] theorem dual_cos_re (a : Dual K) : (Scalar.cos a).re = Transc.cos a.re := rfl
@[simp] theorem dual_cos_du (a : Dual K) : (Scalar.cos a).du = -(Transc.sin a.re * a.du) := rfl
theorem dual_sqrt_du (a : Dual K) : (Scalar.sqrt a).du = a.du / (2 * Transc.sqrt a.re) := by
  show a.du / (Scalar.ofNat 2 * Scalar.sqrt a.re) = _
  rw [scalar_ofNat, Nat.cast_ofNat, scalar_sqrt]
@[simp] theorem dual_lt (a b : Dual K) : Scalar.lt a b = decide (a.re < b.re) := rfl
@[simp] theorem dual_le (a b : Dual K) : Scalar.le a b = decide (a.re ≤ b.re) := rfl
@[simp] theorem dual_gt (a b : Dual K) : Scalar.gt a b = decide (b.re < a.re) := rfl
@[simp] theorem dual_eps_re : (Scalar.eps : Dual K).re = Transc.eps := rfl
@[simp] theorem dual_eps_du : (Scalar.eps : Dual K).du = 0 := dual_nat_du 0
@[simp] theorem dual_abs_re [IsStrictOrderedRing K] (a : Dual K) : (Scalar.abs a).re = |a.re| := rfl
@[simp] theorem dual_lift_re (a : K) : (Dual.lift a).re = a := rfl
@[simp] theorem dual_lift_du (a : K) : (Dual.lift a).du = 0 := by
  show (Scalar.nat 0 : K) = 0
  simp

attribute [dual_proj] dual_add_re dual_add_du dual_sub_re dual_sub_du dual_mul_re dual_mul_du dual_div_re dual_div_du
  dual_neg_re dual_neg_du dual_nat_re dual_nat_du dual_sin_re dual_sin_du dual_cos_re dual_cos_du dual_lift_re dual_lift_du

attribute [ext] Dual

@[eps_split] theorem Dual.lift_eq (a : K) : Dual.lift a = ⟨a, 0⟩ := Dual.ext rfl (dual_lift_du a)

/-- `a + ε b` -/
def V3.dual (a b : V3 K) : V3 (Dual K) := ⟨⟨a.x, b.x⟩, ⟨a.y, b.y⟩, ⟨a.z, b.z⟩⟩
def Quat.dual (p r : Quat K) : Quat (Dual K) := ⟨⟨p.x, r.x⟩, ⟨p.y, r.y⟩, ⟨p.z, r.z⟩, ⟨p.w, r.w⟩⟩
def M3.dual (A B : M3 K) : M3 (Dual K) :=
  ⟨⟨A.a00, B.a00⟩, ⟨A.a01, B.a01⟩, ⟨A.a02, B.a02⟩, ⟨A.a10, B.a10⟩, ⟨A.a11, B.a11⟩, ⟨A.a12, B.a12⟩,
   ⟨A.a20, B.a20⟩, ⟨A.a21, B.a21⟩, ⟨A.a22, B.a22⟩⟩

/-- `(A + εB)(u + εv) = A u + ε (A v + B u)` -/
@[eps_split] theorem M3.dual_mulVec (A B : M3 K) (u v : V3 K) :
    (M3.dual A B).mulVec (V3.dual u v) = V3.dual (A.mulVec u) ((A.mulVec v).add (B.mulVec u)) := by
  ext <;>
    simp only [M3.mulVec, M3.dual, V3.dual, V3.add, sum3, dual_proj] <;>
    ring1

@[eps_split] theorem V3.dual_add (a b c d : V3 K) :
    (V3.dual a b).add (V3.dual c d) = V3.dual (a.add c) (b.add d) := rfl
@[eps_split] theorem V3.dual_neg (a b : V3 K) : (V3.dual a b).neg = V3.dual a.neg b.neg := rfl
/-- `(a + εb)(s + εr) = a s + ε(b s + a r)` -/
@[eps_split] theorem V3.dual_smul (a b : V3 K) (s r : K) :
    (V3.dual a b).smul (⟨s, r⟩ : Dual K) = V3.dual (a.smul s) ((b.smul s).add (a.smul r)) := rfl
theorem Quat.dual_conj (p r : Quat K) : (Quat.dual p r).conj = Quat.dual p.conj r.conj := rfl

attribute [eps_split] M3.mul_mulVec M3.mulVec_zero M3.zero_mulVec V3.add_zero V3.zero_add

namespace SO3

def liftQ (q : Quat K) : Quat (Dual K) := ⟨.lift q.x, .lift q.y, .lift q.z, .lift q.w⟩

/-- `exp(ε d)` to first order: the small-angle branch `(d/2, 1)` of the model's `exp`. -/
def pertQ (d : V3 K) : Quat (Dual K) := ⟨⟨0, d.x / 2⟩, ⟨0, d.y / 2⟩, ⟨0, d.z / 2⟩, ⟨1, 0⟩⟩

/-- the dual part of `pertQ d`: the pure quaternion `d/2` -/
def half (d : V3 K) : Quat K := ⟨d.x / 2, d.y / 2, d.z / 2, 0⟩

theorem liftQ_eq (q : Quat K) : liftQ q = Quat.dual q ⟨0, 0, 0, 0⟩ := by
  simp only [liftQ, Quat.dual, Dual.lift_eq]

omit [LinearOrder K] [Transc K] in
theorem pertQ_eq (d : V3 K) : pertQ d = Quat.dual ⟨0, 0, 0, 1⟩ (half d) := rfl

/-- a value on the left or on the right acts on value part and ε-part separately -/
theorem liftQ_mul_dual (p q r : Quat K) : (liftQ p).mul (Quat.dual q r) = Quat.dual (p.mul q) (p.mul r) := by
  rw [liftQ_eq]
  ext <;> simp only [Quat.mul, Quat.dual, dual_proj] <;> ring1

theorem dual_mul_liftQ (p r q : Quat K) : (Quat.dual p r).mul (liftQ q) = Quat.dual (p.mul q) (r.mul q) := by
  rw [liftQ_eq]
  ext <;> simp only [Quat.mul, Quat.dual, dual_proj] <;> ring1

theorem liftQ_mul (p q : Quat K) : (liftQ p).mul (liftQ q) = liftQ (p.mul q) := by
  rw [liftQ_eq q, liftQ_mul_dual, Quat.mul_zero, ← liftQ_eq]

theorem liftQ_mul_pertQ (p : Quat K) (d : V3 K) :
    (liftQ p).mul (pertQ d) = Quat.dual p (p.mul (half d)) := by
  rw [pertQ_eq, liftQ_mul_dual, Quat.mul_one]

theorem liftQ_conj (q : Quat K) : (liftQ q).conj = liftQ q.conj := by
  rw [liftQ_eq, liftQ_eq, Quat.dual_conj]
  simp only [Quat.conj, neg_zero]

theorem half_conj (d : V3 K) : (half d).conj = half d.neg := by
  simp only [half, Quat.conj, V3.neg, neg_div]

@[eps_split] theorem liftQ_toRot (q : Quat K) : (liftQ q).toRot = M3.dual q.toRot M3.zero := by
  rw [liftQ_eq]
  ext <;> simp only [Quat.toRot, Quat.dual, M3.dual, M3.zero, dual_proj, scalar_nat, Nat.cast_zero] <;> ring1

-- cancelling the halves needs `2 ≠ 0`, which the order gives
variable [IsStrictOrderedRing K]

/-- conjugation by `q` rotates the axis of a pure quaternion: `q (R_Hᵀ d) = |q|² d q`, every `q` -/
theorem mul_half_rotH (q : Quat K) (d : V3 K) :
    q.mul (half (q.rotH.transpose.mulVec d)) = ((half d).mul q).scale q.sqn := by
  ext <;> msimp [Quat.mul, half, Quat.rotH, M3.transpose, M3.mulVec, Quat.scale, Quat.sqn] <;> ring1

/-- `d q = q (Rᵀd)` on pure quaternions: an infinitesimal rotation moves past `q` at the price of the
    Adjoint of `q⁻¹`, which is `Rᵀ`. -/
theorem half_comm (q : Quat K) (hq : q.sqn = 1) (d : V3 K) :
    (half d).mul q = q.mul (half (q.toRot.transpose.mulVec d)) := by
  rw [Quat.toRot_eq_rotH q hq, mul_half_rotH, hq, Quat.scale_one]

/-- the derivative of `toRot` at `p` along `p·(d/2)`, every `p` (on the right the homogeneous form,
    which is why no unit hypothesis is needed) -/
theorem toRot_dual_mul_half (p : Quat K) (d : V3 K) :
    (Quat.dual p (p.mul (half d))).toRot = M3.dual p.toRot (p.rotH.mul (M3.skew d)) := by
  ext <;> simp only [Quat.toRot, Quat.rotH, Quat.mul, half, Quat.dual, M3.dual, M3.mul, M3.skew, sum3,
    dual_proj, scalar_nat] <;> ring1

/-- `R(p exp(εd)) = R(p)(I + ε[d]×)` -/
theorem toRot_mul_pertQ (p : Quat K) (hp : p.sqn = 1) (d : V3 K) :
    ((liftQ p).mul (pertQ d)).toRot = M3.dual p.toRot (p.toRot.mul (M3.skew d)) := by
  rw [liftQ_mul_pertQ, toRot_dual_mul_half, Quat.toRot_eq_rotH p hp]

end SO3

namespace SE3

def liftV (v : V3 K) : V3 (Dual K) := ⟨.lift v.x, .lift v.y, .lift v.z⟩
/-- `ε v` -/
def epsV (v : V3 K) : V3 (Dual K) := ⟨⟨0, v.x⟩, ⟨0, v.y⟩, ⟨0, v.z⟩⟩

@[eps_split] theorem liftV_eq (v : V3 K) : liftV v = V3.dual v ⟨0, 0, 0⟩ := by
  simp only [liftV, V3.dual, Dual.lift_eq]
omit [LinearOrder K] [Transc K] in
@[eps_split] theorem epsV_eq (v : V3 K) : epsV v = V3.dual ⟨0, 0, 0⟩ v := rfl

end SE3

end Manif
