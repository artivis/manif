import Lean

/-- rewriting a dual vector expression into the form `V3.dual (value part) (ε part)` -/
register_simp_attr eps_split

/-- value part and ε part of each dual-number operation (`dual_add_re`, `dual_add_du`, …) -/
register_simp_attr dual_proj
