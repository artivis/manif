/-
  Lemmas/Series.lean — the exponential power series of an element whose powers fold back, in any
  Hausdorff topological ℝ-algebra (matrices with the product topology qualify).
  If `A^(j+2) = -θ² Aʲ` (θ ≠ 0) the series keeps its first `j` terms and the rest collapses onto `Aʲ`
  and `A^(j+1)` (`hasExpSum_of_fold`); the coefficients are the tails of the sine and cosine series:
    j = 1 (SO3 3×3 skew, SE2 3×3 twist; Rodrigues)   1 + (sin θ/θ) A + ((1 - cos θ)/θ²) A²
    j = 2 (rigid motions)        1 + A + ((1 - cos θ)/θ²) A² + ((θ - sin θ)/θ³) A³
    j = 3 (Galilean motions)     1 + A + ½A² + ((θ - sin θ)/θ³) A³ + ((cos θ - 1 + θ²/2)/θ⁴) A⁴
-/
import Mathlib.Analysis.SpecialFunctions.Trigonometric.Series
import Mathlib.Analysis.Normed.Algebra.Exponential
import Mathlib.Topology.Algebra.InfiniteSum.Module

namespace Manif
open scoped Nat

variable {𝔸 : Type*} [Ring 𝔸] [Algebra ℝ 𝔸]

theorem pow_fold {A : 𝔸} {x : ℝ} {j : ℕ} (h : A ^ (j + 2) = x • A ^ j) (k : ℕ) :
    A ^ (j + 2 * k) = x ^ k • A ^ j := by
  induction k with
  | zero => rw [mul_zero, add_zero, pow_zero, one_smul]
  | succ k ih =>
    rw [mul_add, mul_one, ← add_assoc, pow_add, ih, smul_mul_assoc, ← pow_add, h, smul_smul, ← pow_succ]

variable [TopologicalSpace 𝔸] [IsTopologicalRing 𝔸] [ContinuousSMul ℝ 𝔸] [T2Space 𝔸]

/-- the power series `Σ Aⁿ/n!` has sum `M`. -/
def HasExpSum (A M : 𝔸) : Prop := HasSum (fun n : ℕ => ((n ! : ℝ)⁻¹) • A ^ n) M

omit [ContinuousSMul ℝ 𝔸] in
theorem HasExpSum.exp_eq {A M : 𝔸} (h : HasExpSum A M) : NormedSpace.exp A = M := by
  rw [NormedSpace.exp_eq_tsum ℝ]
  exact h.tsum_eq

omit [IsTopologicalRing 𝔸] [T2Space 𝔸] in
theorem hasSum_fold {A : 𝔸} {x : ℝ} {j : ℕ} (h : A ^ (j + 2) = x • A ^ j) {c : ℝ}
    (hc : HasSum (fun k : ℕ => x ^ k / ((j + 2 * k)! : ℝ)) c) :
    HasSum (fun k : ℕ => (((j + 2 * k)! : ℝ)⁻¹) • A ^ (j + 2 * k)) (c • A ^ j) := by
  have hf : (fun k : ℕ => (((j + 2 * k)! : ℝ)⁻¹) • A ^ (j + 2 * k)) =
      fun k : ℕ => (x ^ k / ((j + 2 * k)! : ℝ)) • A ^ j := by
    funext k
    rw [pow_fold h, smul_smul, inv_mul_eq_div]
  rw [hf]
  exact hc.smul_const _

omit [T2Space 𝔸] in
/-- **the exponential series of an element whose powers fold back from `Aʲ` on** (`A^(j+2) = x Aʲ`):
    the first `j` terms stay; the rest, split by parity, collapses onto `Aʲ` and `A^(j+1)` with the two
    scalar series as coefficients.  `j = 1, 2, 3` are rotations, rigid motions, Galilean motions. -/
theorem hasExpSum_of_fold (A : 𝔸) (x : ℝ) (j : ℕ) (h : A ^ (j + 2) = x • A ^ j) {c₀ c₁ : ℝ}
    (h₀ : HasSum (fun k : ℕ => x ^ k / ((j + 2 * k)! : ℝ)) c₀)
    (h₁ : HasSum (fun k : ℕ => x ^ k / ((j + 1 + 2 * k)! : ℝ)) c₁) :
    HasExpSum A ((∑ n ∈ Finset.range j, ((n ! : ℝ)⁻¹) • A ^ n) + (c₀ • A ^ j + c₁ • A ^ (j + 1))) := by
  have h' : A ^ (j + 1 + 2) = x • A ^ (j + 1) := by
    rw [add_right_comm, pow_succ, h, smul_mul_assoc, ← pow_succ]
  have he := hasSum_fold h h₀
  have ho := hasSum_fold h' h₁
  have := HasSum.even_add_odd (f := fun n : ℕ => (((j + n)! : ℝ)⁻¹) • A ^ (j + n)) he
    (by simpa only [← add_assoc, add_right_comm j _ 1] using ho)
  rw [HasExpSum, add_comm, ← hasSum_nat_add_iff' (f := fun n : ℕ => ((n ! : ℝ)⁻¹) • A ^ n) j,
    add_sub_cancel_right]
  simpa only [add_comm j] using this

/-! ### the scalar series `Σ xᵏ/(j+2k)!` at `x = -θ²`: `cos`, `sin θ/θ`, and their tails -/

theorem hasSum_shift {x : ℝ} (hx : x ≠ 0) {j : ℕ} {c : ℝ}
    (hc : HasSum (fun k : ℕ => x ^ k / ((j + 2 * k)! : ℝ)) c) :
    HasSum (fun k : ℕ => x ^ k / ((j + 2 + 2 * k)! : ℝ)) ((c - 1 / (j ! : ℝ)) / x) := by
  have h1 := ((hasSum_nat_add_iff' (f := fun k : ℕ => x ^ k / ((j + 2 * k)! : ℝ)) 1).mpr hc).div_const x
  simp only [Finset.range_one, Finset.sum_singleton, pow_zero, mul_zero, add_zero] at h1
  have hf : (fun k : ℕ => x ^ k / ((j + 2 + 2 * k)! : ℝ)) =
      fun k : ℕ => x ^ (k + 1) / ((j + 2 * (k + 1))! : ℝ) / x := by
    funext k
    rw [pow_succ, mul_add, mul_one, add_right_comm j 2, add_assoc j, div_right_comm, mul_div_assoc, div_self hx,
      mul_one]
  rw [hf]
  exact h1

theorem hasSum_cos (θ : ℝ) : HasSum (fun k : ℕ => (-(θ ^ 2)) ^ k / ((2 * k)! : ℝ)) (Real.cos θ) := by
  convert Real.hasSum_cos θ using 2 with k
  rw [neg_pow, pow_mul]

theorem hasSum_sin_div (θ : ℝ) (hθ : θ ≠ 0) :
    HasSum (fun k : ℕ => (-(θ ^ 2)) ^ k / ((1 + 2 * k)! : ℝ)) (Real.sin θ / θ) := by
  have hf : (fun k : ℕ => (-(θ ^ 2)) ^ k / ((1 + 2 * k)! : ℝ)) =
      fun k : ℕ => (-1) ^ k * θ ^ (2 * k + 1) / ((2 * k + 1)! : ℝ) / θ := by
    funext k
    rw [add_comm 1, neg_pow, ← pow_mul, pow_succ θ (2 * k), div_right_comm, ← mul_assoc, mul_div_assoc _ θ θ,
      div_self hθ, mul_one]
  rw [hf]
  exact (Real.hasSum_sin θ).div_const θ

section tails
variable (θ : ℝ) (hθ : θ ≠ 0)
include hθ

theorem neg_sq_ne_zero : -(θ ^ 2) ≠ 0 := neg_ne_zero.mpr (pow_ne_zero 2 hθ)

theorem hasSum_one_sub_cos_div :
    HasSum (fun k : ℕ => (-(θ ^ 2)) ^ k / ((2 + 2 * k)! : ℝ)) ((1 - Real.cos θ) / θ ^ 2) := by
  have h := hasSum_shift (j := 0) (neg_sq_ne_zero θ hθ) (by simpa only [zero_add] using hasSum_cos θ)
  simp only [zero_add] at h
  convert h using 1
  rw [Nat.factorial_zero, Nat.cast_one, div_one, div_neg, ← neg_div, neg_sub]

theorem hasSum_sub_sin_div :
    HasSum (fun k : ℕ => (-(θ ^ 2)) ^ k / ((3 + 2 * k)! : ℝ)) ((θ - Real.sin θ) / θ ^ 3) := by
  have h := hasSum_shift (neg_sq_ne_zero θ hθ) (hasSum_sin_div θ hθ)
  simp only [Nat.reduceAdd] at h
  convert h using 1
  rw [Nat.factorial_one, Nat.cast_one, div_one]
  field_simp
  ring

theorem hasSum_cos_tail2 :
    HasSum (fun k : ℕ => (-(θ ^ 2)) ^ k / ((4 + 2 * k)! : ℝ))
      ((Real.cos θ - 1 + θ ^ 2 / 2) / θ ^ 4) := by
  have h := hasSum_shift (neg_sq_ne_zero θ hθ) (hasSum_one_sub_cos_div θ hθ)
  simp only [Nat.reduceAdd] at h
  convert h using 1
  rw [Nat.factorial_two, Nat.cast_ofNat]
  field_simp
  ring
end tails

/-- **Rodrigues**: `A³ = -θ²A`, `θ ≠ 0`  ⟹  `Σ Aⁿ/n! = 1 + (sin θ/θ) A + ((1-cos θ)/θ²) A²`. -/
theorem hasExpSum_of_cube (A : 𝔸) (θ : ℝ) (hθ : θ ≠ 0) (h : A ^ 3 = (-(θ ^ 2)) • A) :
    HasExpSum A (1 + (Real.sin θ / θ) • A + ((1 - Real.cos θ) / θ ^ 2) • A ^ 2) := by
  have := hasExpSum_of_fold A (-(θ ^ 2)) 1 (by rw [pow_one]; exact h) (hasSum_sin_div θ hθ)
    (hasSum_one_sub_cos_div θ hθ)
  simpa [add_assoc] using this

/-- the nilpotent case (`θ = 0` for SE2/SE3-type twists with zero rotation): `A² = 0`, the fold with `x = 0`. -/
theorem hasExpSum_of_sq_zero (A : 𝔸) (h : A ^ 2 = 0) : HasExpSum A (1 + A) := by
  have hz : ∀ j : ℕ, HasSum (fun k : ℕ => (0 : ℝ) ^ k / ((j + 2 * k)! : ℝ)) (1 / (j ! : ℝ)) := fun j => by
    convert hasSum_single (f := fun k : ℕ => (0 : ℝ) ^ k / ((j + 2 * k)! : ℝ)) 0
      (fun k hk => by rw [zero_pow hk, zero_div]) using 1
    rw [pow_zero, mul_zero, add_zero]
  have := hasExpSum_of_fold A 0 0 (by rw [zero_add, h, zero_smul]) (hz 0) (hz (0 + 1))
  simpa using this

/-- rigid motions `[[W, ρ], [0, 0]]` with `W` skew: `A⁴ = -θ²A²`, `θ ≠ 0`  ⟹
    `Σ Aⁿ/n! = 1 + A + ((1-cos θ)/θ²) A² + ((θ - sin θ)/θ³) A³`. -/
theorem hasExpSum_of_quartic (A : 𝔸) (θ : ℝ) (hθ : θ ≠ 0) (h : A ^ 4 = (-(θ ^ 2)) • A ^ 2) :
    HasExpSum A (1 + A + ((1 - Real.cos θ) / θ ^ 2) • A ^ 2 + ((θ - Real.sin θ) / θ ^ 3) • A ^ 3) := by
  have := hasExpSum_of_fold A (-(θ ^ 2)) 2 h (hasSum_one_sub_cos_div θ hθ) (hasSum_sub_sin_div θ hθ)
  simpa [Finset.sum_range_succ, add_assoc] using this

/-- Galilean motions `[[W, ν, ρ], [0, 0, ι], [0, 0, 0]]` with `W` skew: `A⁵ = -θ²A³`, `θ ≠ 0`  ⟹
    `Σ Aⁿ/n! = 1 + A + ½A² + ((θ - sin θ)/θ³) A³ + ((cos θ - 1 + θ²/2)/θ⁴) A⁴`. -/
theorem hasExpSum_of_quintic (A : 𝔸) (θ : ℝ) (hθ : θ ≠ 0) (h : A ^ 5 = (-(θ ^ 2)) • A ^ 3) :
    HasExpSum A (1 + A + (1 / 2 : ℝ) • A ^ 2 + ((θ - Real.sin θ) / θ ^ 3) • A ^ 3 +
      ((Real.cos θ - 1 + θ ^ 2 / 2) / θ ^ 4) • A ^ 4) := by
  have := hasExpSum_of_fold A (-(θ ^ 2)) 3 h (hasSum_sub_sin_div θ hθ) (hasSum_cos_tail2 θ hθ)
  simpa [Finset.sum_range_succ, add_assoc] using this

end Manif
