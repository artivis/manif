/-
  Lemmas/GroupOps.lean — what the members `LieGroupBase` derives from the primitives (`rminus`, `lminus`, `rplus`,
  `lplus`, `between` of ManifModel/Base.lean) compute, for any record of primitives: `rminus` and `lminus` under every
  mask of requested Jacobians, the other three with none requested.  Proofs about these members start here and do
  not unfold them again.
-/
import ManifModel.Base
import ManifProofs.Lemmas.Except

namespace Manif
variable {K G T J : Type} (o : GroupOps K G T J)

namespace GroupOps

/-- `rminus` under any mask: the documented composition, with the requested Jacobians of its value attached. -/
theorem rminus_mask (dbg : Bool) (X Y : G) (wa wb : Bool) :
    o.rminus dbg X Y wa wb =
      (do let yi ← o.inverse dbg Y; let c ← o.compose dbg yi X; pure (o.log c)).map fun t =>
        ⟨t, if wa then some (o.rjacinv t) else none, if wb then some (o.jneg (o.rjacinv (o.tneg t))) else none⟩ := by
  unfold rminus
  cases o.inverse dbg Y with
  | error e => rfl
  | ok yi =>
    dsimp only [bind, Except.bind]
    cases o.compose dbg yi X <;> rfl

/-- `lminus` under any mask; the three code paths of the source give the same two Jacobians. -/
theorem lminus_mask (dbg : Bool) (X Y : G) (wa wb : Bool) :
    o.lminus dbg X Y wa wb =
      (do let yi ← o.inverse dbg Y; let c ← o.compose dbg X yi; pure (o.log c)).map fun t =>
        ⟨t, if wa then some (o.jmul (o.rjacinv t) (o.adj Y)) else none,
          if wb then some (o.jneg (o.jmul (o.rjacinv t) (o.adj Y))) else none⟩ := by
  unfold lminus
  cases o.inverse dbg Y with
  | error e => rfl
  | ok yi =>
    dsimp only [bind, Except.bind]
    cases o.compose dbg X yi <;> cases wa <;> cases wb <;> rfl

/-- the plain `rplus`: no Jacobian is computed, so only `exp` and `compose` can fail -/
theorem rplus_plain (dbg : Bool) (X : G) (t : T) :
    o.rplus dbg X t false false =
      (do let e ← o.exp dbg t; o.compose dbg X e).map fun r => ⟨r, none, none⟩ := by
  unfold rplus
  cases o.exp dbg t with
  | error e => rfl
  | ok e =>
    dsimp only [bind, Except.bind]
    cases o.compose dbg X e <;> rfl

theorem lplus_plain (dbg : Bool) (X : G) (t : T) :
    o.lplus dbg X t false false =
      (do let e ← o.exp dbg t; o.compose dbg e X).map fun r => ⟨r, none, none⟩ := by
  unfold lplus
  cases o.exp dbg t with
  | error e => rfl
  | ok e =>
    dsimp only [bind, Except.bind]
    cases o.compose dbg e X <;> rfl

theorem between_plain (dbg : Bool) (X Y : G) :
    o.between dbg X Y false false =
      (do let xi ← o.inverse dbg X; o.compose dbg xi Y).map fun r => ⟨r, none, none⟩ := by
  unfold between
  cases o.inverse dbg X with
  | error e => rfl
  | ok xi =>
    dsimp only [bind, Except.bind]
    cases o.compose dbg xi Y <;> rfl

end GroupOps
end Manif
