/-
  Lemmas/Block.lean — the one shape `[A B; 0 N]`.
  Every homogeneous matrix and every `hat` of SE3, SE_2(3), SGal(3) is block upper-triangular with a
  3×3 block `A`, one or two columns `B` and a 1×1 or 2×2 corner `N` (`1`, `0`, `!![1, τ; 0, 1]` or the
  nilpotent `!![0, τ; 0, 0]`).  `blk A B N` is that matrix on `Fin (3 + n)`, with the algebra of
  Mathlib's `fromBlocks`; each way such a matrix is written (`!![…]` literals, `matOfRows n` of a
  row-major list) is identified with a `blk` once, entry by entry.  Products, powers and polynomials
  of these matrices are then computed on blocks; the action on a point (`hom4_mulVec`, `act_eq` of the
  5×5 groups) is still computed entrywise.

  At a concrete size (`Fin 4`, `Fin 5`) rewrite with the `blk_*` lemmas by `rw`, not `simp only`:
  the goal's instances are those of `Fin 4`, the lemma's those of `Fin (3 + 1)`.
-/
import ManifProofs.Lemmas.Mat
import Mathlib.Tactic.Abel

namespace Manif
open Matrix

section blk
variable {K : Type} [Field K] {n : ℕ}

/-- `[A B; 0 N]` -/
def blk (A : Matrix (Fin 3) (Fin 3) K) (B : Matrix (Fin 3) (Fin n) K) (N : Matrix (Fin n) (Fin n) K) :
    Matrix (Fin (3 + n)) (Fin (3 + n)) K :=
  (fromBlocks A B 0 N).submatrix finSumFinEquiv.symm finSumFinEquiv.symm

variable (A A' : Matrix (Fin 3) (Fin 3) K) (B B' : Matrix (Fin 3) (Fin n) K) (N N' : Matrix (Fin n) (Fin n) K)

theorem blk_mul : blk A B N * blk A' B' N' = blk (A * A') (A * B' + B * N') (N * N') := by
  simp only [blk, submatrix_mul_equiv, fromBlocks_multiply, Matrix.zero_mul, Matrix.mul_zero, add_zero, zero_add]

theorem blk_one : blk (1 : Matrix (Fin 3) (Fin 3) K) (0 : Matrix (Fin 3) (Fin n) K) 1 = 1 := by
  simp only [blk, fromBlocks_one, submatrix_one_equiv]

-- `submatrix` commutes with `+`, `•`, `-` by `rfl` (Mathlib states it for the unapplied function), hence `congrArg`
theorem blk_add : blk A B N + blk A' B' N' = blk (A + A') (B + B') (N + N') := by
  have h := fromBlocks_add A B (0 : Matrix (Fin n) (Fin 3) K) N A' B' 0 N'
  rw [add_zero] at h
  exact congrArg (fun M => M.submatrix finSumFinEquiv.symm finSumFinEquiv.symm) h

theorem blk_smul (c : K) : c • blk A B N = blk (c • A) (c • B) (c • N) := by
  have h := fromBlocks_smul c A B (0 : Matrix (Fin n) (Fin 3) K) N
  rw [smul_zero] at h
  exact congrArg (fun M => M.submatrix finSumFinEquiv.symm finSumFinEquiv.symm) h

theorem blk_neg : -blk A B N = blk (-A) (-B) (-N) := by
  have h := fromBlocks_neg A B (0 : Matrix (Fin n) (Fin 3) K) N
  rw [neg_zero] at h
  exact congrArg (fun M => M.submatrix finSumFinEquiv.symm finSumFinEquiv.symm) h

theorem blk_sub : blk A B N - blk A' B' N' = blk (A - A') (B - B') (N - N') := by
  rw [sub_eq_add_neg, blk_neg, blk_add, ← sub_eq_add_neg, ← sub_eq_add_neg, ← sub_eq_add_neg]

/-- powers when the corner squares to zero (in particular when it is zero) -/
theorem blk_pow_add_two (hN : N * N = 0) (k : ℕ) :
    blk A B N ^ (k + 2) = blk (A ^ (k + 2)) (A ^ (k + 1) * B + A ^ k * B * N) 0 := by
  induction k with
  | zero => rw [zero_add, pow_two, blk_mul, hN, ← pow_two, pow_one, pow_zero, Matrix.one_mul]
  | succ k ih =>
    rw [pow_succ, ih, blk_mul, Matrix.zero_mul, Matrix.add_mul, Matrix.mul_assoc _ N N, hN, Matrix.mul_zero,
      add_zero, ← pow_succ, add_comm (A ^ (k + 2) * B)]

/-- a quartic polynomial in `[A B; 0 N]`, `N² = 0`, block by block -/
theorem blk_poly (hN : N * N = 0) (a b c : K) :
    1 + blk A B N + a • blk A B N ^ 2 + b • blk A B N ^ 3 + c • blk A B N ^ 4 =
      blk (1 + A + a • A ^ 2 + b • A ^ 3 + c • A ^ 4)
        ((1 + a • A + b • A ^ 2 + c • A ^ 3) * B + (a • 1 + b • A + c • A ^ 2) * B * N) (1 + N) := by
  rw [blk_pow_add_two A B N hN 0, blk_pow_add_two A B N hN 1, blk_pow_add_two A B N hN 2, ← blk_one,
    blk_smul, blk_smul, blk_smul, blk_add, blk_add, blk_add, blk_add]
  congr 1
  · simp only [pow_zero, pow_one, Matrix.add_mul, Matrix.smul_mul, Matrix.one_mul, smul_add, zero_add,
      Nat.reduceAdd]
    abel
  · simp only [smul_zero, add_zero]

/-- the cubic case with zero corner, as `SE3T.poly_blocks` and `SE23T.poly_blocks` state it -/
theorem blk_zero_poly (a b : K) :
    1 + blk A B 0 + a • blk A B 0 ^ 2 + b • blk A B 0 ^ 3 =
      blk (1 + A + a • A ^ 2 + b • A ^ 3) ((1 + a • A + b • A ^ 2) * B) 1 := by
  have h := blk_poly A B 0 (Matrix.mul_zero 0) a b 0
  rw [zero_smul, zero_smul, zero_smul, add_zero, add_zero, add_zero, Matrix.mul_zero, add_zero, add_zero] at h
  exact h

theorem pow_add_three_of_cube {W : Matrix (Fin 3) (Fin 3) K} {c : K} (hW : W ^ 3 = c • W) (k : ℕ) :
    W ^ (k + 3) = c • W ^ (k + 1) := by
  rw [pow_add, hW, Matrix.mul_smul, ← pow_succ]

/-- the relation `W³ = c W` of the 3×3 block, times `X²`, holds for the whole matrix when `N² = 0`
    (the input of the exponential series, and `gal5_quintic`) … -/
theorem blk_quintic {W : Matrix (Fin 3) (Fin 3) K} {c : K} (hW : W ^ 3 = c • W) (hN : N * N = 0) :
    blk W B N ^ 5 = c • blk W B N ^ 3 := by
  rw [blk_pow_add_two W B N hN 3, blk_pow_add_two W B N hN 1, blk_smul, smul_zero, pow_add_three_of_cube hW 2,
    pow_add_three_of_cube hW 1, pow_add_three_of_cube hW 0, smul_add, Matrix.smul_mul, Matrix.smul_mul,
    Matrix.smul_mul]

/-- … and times `X` when `N = 0` (`hat4_quartic`, `hat5_quartic`). -/
theorem blk_quartic {W : Matrix (Fin 3) (Fin 3) K} {c : K} (hW : W ^ 3 = c • W) :
    blk W B 0 ^ 4 = c • blk W B 0 ^ 2 := by
  rw [blk_pow_add_two W B 0 (Matrix.mul_zero 0) 2, blk_pow_add_two W B 0 (Matrix.mul_zero 0) 0, blk_smul, smul_zero,
    pow_add_three_of_cube hW 1, pow_add_three_of_cube hW 0, Matrix.mul_zero, Matrix.mul_zero, add_zero, add_zero,
    Matrix.smul_mul]

def col1 (a : Fin 3 → K) : Matrix (Fin 3) (Fin 1) K := Matrix.of fun i _ => a i
def cols2 (a b : Fin 3 → K) : Matrix (Fin 3) (Fin 2) K := Matrix.of fun i j => ![a i, b i] j

variable (M : Matrix (Fin 3) (Fin 3) K) (a b c d : Fin 3 → K) (k : K)

theorem mul_col1 : M * col1 a = col1 (M *ᵥ a) := by
  ext i j; rfl
theorem col1_add : col1 a + col1 b = col1 (a + b) := by
  ext i j; rfl
theorem col1_sub : col1 a - col1 b = col1 (a - b) := by
  ext i j; rfl
theorem smul_col1 : k • col1 a = col1 (k • a) := by
  ext i j; rfl
theorem col1_zero : col1 (0 : Fin 3 → K) = 0 := by
  ext i j; rfl

theorem mul_cols2 : M * cols2 a b = cols2 (M *ᵥ a) (M *ᵥ b) := by
  ext i j; fin_cases j <;> rfl
theorem cols2_add : cols2 a b + cols2 c d = cols2 (a + c) (b + d) := by
  ext i j; fin_cases j <;> rfl
theorem cols2_sub : cols2 a b - cols2 c d = cols2 (a - c) (b - d) := by
  ext i j; fin_cases j <;> rfl
theorem smul_cols2 : k • cols2 a b = cols2 (k • a) (k • b) := by
  ext i j; fin_cases j <;> rfl
theorem cols2_zero : cols2 (0 : Fin 3 → K) 0 = 0 := by
  ext i j; fin_cases j <;> rfl
theorem cols2_mul (N : Matrix (Fin 2) (Fin 2) K) :
    cols2 a b * N = cols2 (N 0 0 • a + N 1 0 • b) (N 0 1 • a + N 1 1 • b) := by
  ext i j
  fin_cases j <;> simp [cols2, Matrix.mul_apply, Fin.sum_univ_two, mul_comm]

theorem unitri_mul (τ σ : K) : !![1, τ; 0, 1] * !![1, σ; 0, 1] = !![1, τ + σ; 0, 1] := by
  rw [Matrix.mul_fin_two]
  simp only [one_mul, mul_one, zero_mul, mul_zero, add_zero, zero_add, add_comm σ τ]
theorem nil2_zero : !![(0 : K), 0; 0, 0] = 0 := by
  ext i j; fin_cases i <;> fin_cases j <;> rfl
theorem nil2_mul (τ σ : K) : !![0, τ; 0, 0] * !![0, σ; 0, 0] = 0 := by
  rw [Matrix.mul_fin_two]
  simp only [zero_mul, mul_zero, add_zero]
  exact nil2_zero
theorem one_add_nil2 (τ : K) : 1 + !![0, τ; 0, 0] = !![1, τ; 0, 1] := by
  ext i j; fin_cases i <;> fin_cases j <;> simp
theorem nil2_linear (c τ σ : K) : c • !![0, τ; 0, 0] + !![0, σ; 0, 0] = !![0, c * τ + σ; 0, 0] := by
  ext i j; fin_cases i <;> fin_cases j <;> simp

-- the literal shapes; when the 3×3 part of a literal is not visibly `M i j` (numerals), give `M` explicitly

theorem lit4_eq_blk (M : Matrix (Fin 3) (Fin 3) K) (p : Fin 3 → K) (N : Matrix (Fin 1) (Fin 1) K) :
    !![M 0 0, M 0 1, M 0 2, p 0; M 1 0, M 1 1, M 1 2, p 1; M 2 0, M 2 1, M 2 2, p 2; 0, 0, 0, N 0 0] =
      blk M (col1 p) N := by
  ext i j
  fin_cases i <;> fin_cases j <;> rfl

theorem lit5_eq_blk (M : Matrix (Fin 3) (Fin 3) K) (a b : Fin 3 → K) (N : Matrix (Fin 2) (Fin 2) K) :
    !![M 0 0, M 0 1, M 0 2, a 0, b 0; M 1 0, M 1 1, M 1 2, a 1, b 1; M 2 0, M 2 1, M 2 2, a 2, b 2;
       0, 0, 0, N 0 0, N 0 1; 0, 0, 0, N 1 0, N 1 1] = blk M (cols2 a b) N := by
  ext i j
  fin_cases i <;> fin_cases j <;> rfl

/-- homogeneous matrix from a row-major list of `n*n` entries (the model's `transform()`). -/
def matOfRows (n : ℕ) (l : List K) : Matrix (Fin n) (Fin n) K :=
  fun i j => l.getD (n * i.val + j.val) 0

theorem matOfRows_lit4 (a00 a01 a02 a03 a10 a11 a12 a13 a20 a21 a22 a23 a30 a31 a32 a33 : K) :
    matOfRows 4 [a00, a01, a02, a03, a10, a11, a12, a13, a20, a21, a22, a23, a30, a31, a32, a33] =
      !![a00, a01, a02, a03; a10, a11, a12, a13; a20, a21, a22, a23; a30, a31, a32, a33] := by
  ext i j
  fin_cases i <;> fin_cases j <;> rfl

theorem matOfRows_lit5 (a00 a01 a02 a03 a04 a10 a11 a12 a13 a14 a20 a21 a22 a23 a24 a30 a31 a32 a33 a34
    a40 a41 a42 a43 a44 : K) :
    matOfRows 5 [a00, a01, a02, a03, a04, a10, a11, a12, a13, a14, a20, a21, a22, a23, a24,
        a30, a31, a32, a33, a34, a40, a41, a42, a43, a44] =
      !![a00, a01, a02, a03, a04; a10, a11, a12, a13, a14; a20, a21, a22, a23, a24;
         a30, a31, a32, a33, a34; a40, a41, a42, a43, a44] := by
  ext i j
  fin_cases i <;> fin_cases j <;> rfl

/-- homogeneous coordinates of a point. -/
def homog2 (p : V2 K) : Fin 3 → K := ![p.x, p.y, 1]
def homog3 (p : V3 K) : Fin 4 → K := ![p.x, p.y, p.z, 1]

/-- the 4×4 homogeneous matrix `[R t; 0 1]`. -/
def hom4 (R : M3 K) (t : V3 K) : Matrix (Fin 4) (Fin 4) K :=
  !![R.a00, R.a01, R.a02, t.x; R.a10, R.a11, R.a12, t.y; R.a20, R.a21, R.a22, t.z; 0, 0, 0, 1]

/-- the 5×5 matrix `[R a b; 0 1 τ; 0 0 1]` (SE_2(3): a = t, b = v, τ = 0; SGal(3): a = v, b = p, τ = t). -/
def hom5 (R : M3 K) (a b : V3 K) (τ : K) : Matrix (Fin 5) (Fin 5) K :=
  !![R.a00, R.a01, R.a02, a.x, b.x; R.a10, R.a11, R.a12, a.y, b.y; R.a20, R.a21, R.a22, a.z, b.z;
     0, 0, 0, 1, τ; 0, 0, 0, 0, 1]

end blk

variable {K : Type} [Field K] [LinearOrder K] [Transc K]

omit [LinearOrder K] [Transc K] in
theorem hom4_eq_blk (R : M3 K) (t : V3 K) : hom4 R t = blk R.toMatrix (col1 t.toVec) 1 :=
  lit4_eq_blk R.toMatrix t.toVec 1

omit [LinearOrder K] [Transc K] in
theorem hom5_eq_blk (R : M3 K) (a b : V3 K) (τ : K) :
    hom5 R a b τ = blk R.toMatrix (cols2 a.toVec b.toVec) !![1, τ; 0, 1] :=
  lit5_eq_blk R.toMatrix a.toVec b.toVec !![1, τ; 0, 1]

theorem hom4_mul (R S : M3 K) (t u : V3 K) :
    hom4 R t * hom4 S u = hom4 (R.mul S) ((R.mulVec u).add t) := by
  rw [hom4_eq_blk, hom4_eq_blk, hom4_eq_blk, blk_mul, mul_col1, Matrix.mul_one, col1_add, Matrix.mul_one,
    M3.toMatrix_mul, V3.toVec_add, M3.toVec_mulVec]

-- stated for the scalars of the group files (an ordered field with `LawfulTransc`); the proof uses neither
section
variable {K : Type} [Field K] [LinearOrder K] [IsStrictOrderedRing K] [Transc K] [LawfulTransc K]
theorem hom5_mul (R S : M3 K) (a b c d : V3 K) (τ σ : K) :
    hom5 R a b τ * hom5 S c d σ =
      hom5 (R.mul S) ((R.mulVec c).add a) (((R.mulVec d).add (a.smul σ)).add b) (τ + σ) := by
  -- columns of the product: `R [c d] + [a b] [1 σ; 0 1]`
  rw [hom5_eq_blk, hom5_eq_blk, hom5_eq_blk, blk_mul, mul_cols2, cols2_mul, cols2_add, unitri_mul]
  simp only [M3.toMatrix_mul, V3.toVec_add, M3.toVec_mulVec, V3.toVec_smul, of_apply, cons_val', cons_val_zero,
    cons_val_one, cons_val_fin_one, one_smul, zero_smul, add_zero, add_assoc]
end

theorem hom4_one : hom4 (M3.one : M3 K) ⟨0, 0, 0⟩ = 1 := by
  rw [hom4_eq_blk, M3.toMatrix_one, V3.toVec_zero, col1_zero, blk_one]

theorem hom5_one : hom5 (M3.one : M3 K) ⟨0, 0, 0⟩ ⟨0, 0, 0⟩ 0 = 1 := by
  rw [hom5_eq_blk, M3.toMatrix_one, V3.toVec_zero, cols2_zero, ← Matrix.one_fin_two, blk_one]

theorem hom4_mulVec (R : M3 K) (t : V3 K) (p : V3 K) :
    (hom4 R t).mulVec (homog3 p) = homog3 (t.add (R.mulVec p)) := by
  ext i
  fin_cases i <;>
    simp [hom4, homog3, Matrix.mulVec, dotProduct, Fin.sum_univ_four, M3.mulVec, V3.add, sum3] <;> ring

-- the three `hat()`s: `[ω]×` with the translational parts as columns
theorem SE3T.hatRows_eq_blk (t : SE3T K) :
    matOfRows 4 t.hatRows = blk (M3.skew t.ang).toMatrix (col1 t.lin.toVec) 0 := by
  rw [SE3T.hatRows, matOfRows_lit4, M3.toMatrix_skew]
  simp only [scalar_nat, Nat.cast_zero]
  exact lit4_eq_blk !![0, -t.ang.z, t.ang.y; t.ang.z, 0, -t.ang.x; -t.ang.y, t.ang.x, 0] t.lin.toVec 0

theorem SE23T.hatRows_eq_blk (t : SE23T K) :
    matOfRows 5 t.hatRows = blk (M3.skew t.ang).toMatrix (cols2 t.lin.toVec t.lin2.toVec) 0 := by
  rw [SE23T.hatRows, matOfRows_lit5, M3.toMatrix_skew]
  simp only [scalar_nat, Nat.cast_zero]
  exact lit5_eq_blk !![0, -t.ang.z, t.ang.y; t.ang.z, 0, -t.ang.x; -t.ang.y, t.ang.x, 0] t.lin.toVec t.lin2.toVec 0

theorem SGal3T.hatRows_eq_blk (t : SGal3T K) :
    matOfRows 5 t.hatRows = blk (M3.skew t.ang).toMatrix (cols2 t.lin2.toVec t.lin.toVec) !![0, t.t; 0, 0] := by
  rw [SGal3T.hatRows, matOfRows_lit5, M3.toMatrix_skew]
  simp only [scalar_nat, Nat.cast_zero]
  exact lit5_eq_blk !![0, -t.ang.z, t.ang.y; t.ang.z, 0, -t.ang.x; -t.ang.y, t.ang.x, 0] t.lin2.toVec t.lin.toVec
    !![0, t.t; 0, 0]

end Manif
