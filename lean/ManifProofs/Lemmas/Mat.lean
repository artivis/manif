/-
  Lemmas/Mat.lean — algebra of the model's fixed-size structures over a field.
  * `V3`/`M3` as they stand: `M3.mulVec` is a linear action compatible with `M3.mul`, `M3.skew u`
    is `v ↦ u × v`.  Identities between 3×3 matrices are proved here, on the structure (nine scalar
    goals, no `Fin`), and only then read as Mathlib matrices.
  * `toMatrix`/`toVec`: the modelled Eigen kernels (with their particular summation order) are the
    ring operations of `Matrix`.
-/
import ManifProofs.Inst.Laws
import Mathlib.LinearAlgebra.Matrix.Notation
import Mathlib.Data.Matrix.Block
import Mathlib.Tactic.Ring
import Mathlib.Tactic.FinCases
import Mathlib.Tactic.LinearCombination

namespace Manif
open Matrix

/-- unfold model definitions and turn the model's numerals into field numerals, nothing else
    (plain `simp` would also rewrite equations, e.g. cancel common factors). -/
macro "msimp" "[" ds:Lean.Parser.Tactic.simpLemma,* "]" : tactic =>
  `(tactic| simp only [$ds,*, scalar_nat, scalar_rat, scalar_ofNat, Nat.cast_ofNat, Nat.cast_one,
      Nat.cast_zero, sum3, sum4])

attribute [ext] V2 V3 Quat M2 M3

-- `[LinearOrder K] [Transc K]` are there because `Scalar K`, over which the model is written, is `instScalarOfField`
variable {K : Type} [Field K] [LinearOrder K] [Transc K]

def V2.toVec (v : V2 K) : Fin 2 → K := ![v.x, v.y]
def V3.toVec (v : V3 K) : Fin 3 → K := ![v.x, v.y, v.z]
def M2.toMatrix (m : M2 K) : Matrix (Fin 2) (Fin 2) K := !![m.a00, m.a01; m.a10, m.a11]
def M3.toMatrix (m : M3 K) : Matrix (Fin 3) (Fin 3) K :=
  !![m.a00, m.a01, m.a02; m.a10, m.a11, m.a12; m.a20, m.a21, m.a22]

namespace V3
variable (u v : V3 K)
theorem add_comm : u.add v = v.add u := V3.ext (_root_.add_comm _ _) (_root_.add_comm _ _) (_root_.add_comm _ _)
theorem add_zero : u.add ⟨0, 0, 0⟩ = u := V3.ext (_root_.add_zero _) (_root_.add_zero _) (_root_.add_zero _)
theorem zero_add : (⟨0, 0, 0⟩ : V3 K).add u = u := V3.ext (_root_.zero_add _) (_root_.zero_add _) (_root_.zero_add _)
theorem neg_neg : u.neg.neg = u := V3.ext (_root_.neg_neg _) (_root_.neg_neg _) (_root_.neg_neg _)
theorem add_neg_cancel_right : (u.add v).add v.neg = u :=
  V3.ext (_root_.add_neg_cancel_right _ _) (_root_.add_neg_cancel_right _ _) (_root_.add_neg_cancel_right _ _)
theorem neg_add_cancel_right : (u.add v.neg).add v = u :=
  V3.ext (_root_.neg_add_cancel_right _ _) (_root_.neg_add_cancel_right _ _) (_root_.neg_add_cancel_right _ _)
theorem sub_add_cancel : (u.sub v).add v = u :=
  V3.ext (_root_.sub_add_cancel _ _) (_root_.sub_add_cancel _ _) (_root_.sub_add_cancel _ _)
theorem add_sub_cancel_right : (u.add v).sub v = u :=
  V3.ext (_root_.add_sub_cancel_right _ _) (_root_.add_sub_cancel_right _ _) (_root_.add_sub_cancel_right _ _)
theorem muls_one : v.muls 1 = v := V3.ext (mul_one _) (mul_one _) (mul_one _)
theorem muls_zero : v.muls 0 = ⟨0, 0, 0⟩ := V3.ext (mul_zero _) (mul_zero _) (mul_zero _)
theorem sqNorm_neg : v.neg.sqNorm = v.sqNorm := by
  simp only [sqNorm, neg, sum3, neg_mul_neg]
end V3

namespace M3
variable (A B : M3 K) (u v : V3 K) (c : K)

theorem mul_mulVec : (A.mul B).mulVec v = A.mulVec (B.mulVec v) := by
  ext <;> simp only [mul, mulVec, sum3] <;> ring
theorem mulVec_add : A.mulVec (u.add v) = (A.mulVec u).add (A.mulVec v) := by
  ext <;> simp only [mulVec, V3.add, sum3] <;> ring
theorem mulVec_neg : A.mulVec v.neg = (A.mulVec v).neg := by
  ext <;> simp only [mulVec, V3.neg, sum3] <;> ring
theorem mulVec_sub : A.mulVec (u.sub v) = (A.mulVec u).sub (A.mulVec v) := by
  ext <;> simp only [mulVec, V3.sub, sum3] <;> ring
/-- `v.smul c` is `V3.smul c v`. -/
theorem mulVec_smul : A.mulVec (v.smul c) = (A.mulVec v).smul c := by
  ext <;> simp only [mulVec, V3.smul, sum3] <;> ring
theorem mulVec_zero : A.mulVec ⟨0, 0, 0⟩ = ⟨0, 0, 0⟩ := by
  ext <;> simp only [mulVec, sum3, mul_zero, _root_.add_zero]
theorem neg_mulVec : A.neg.mulVec v = (A.mulVec v).neg := by
  ext <;> simp only [mulVec, V3.neg, neg, map, sum3] <;> ring
theorem smul_mulVec : (M3.smul c A).mulVec v = (A.mulVec v).smul c := by
  ext <;> simp only [mulVec, V3.smul, smul, map, sum3] <;> ring
theorem one_mulVec : (M3.one : M3 K).mulVec v = v := by
  ext <;> msimp [mulVec, one] <;> ring
theorem zero_mulVec : (M3.zero : M3 K).mulVec v = ⟨0, 0, 0⟩ := by
  ext <;> msimp [mulVec, zero] <;> ring

theorem mul_assoc (C : M3 K) : (A.mul B).mul C = A.mul (B.mul C) := by
  ext <;> simp only [mul, sum3] <;> ring
theorem mul_one : A.mul M3.one = A := by
  ext <;> msimp [mul, one] <;> ring

omit [Field K] [LinearOrder K] [Transc K] in
theorem transpose_transpose : A.transpose.transpose = A := rfl
theorem transpose_add : (A.add B).transpose = A.transpose.add B.transpose := rfl
theorem transpose_sub : (A.sub B).transpose = A.transpose.sub B.transpose := rfl
theorem transpose_smul : (M3.smul c A).transpose = M3.smul c A.transpose := rfl
theorem transpose_one : (M3.one : M3 K).transpose = M3.one := rfl
theorem transpose_mul : (A.mul B).transpose = B.transpose.mul A.transpose := by
  ext <;> simp only [mul, transpose, sum3] <;> ring
theorem smul_mul : (M3.smul c A).mul B = M3.smul c (A.mul B) := by
  ext <;> simp only [mul, smul, map, sum3] <;> ring
theorem one_smul : M3.smul (1 : K) A = A := by
  ext <;> simp only [smul, map, one_mul]
theorem one_eq : (M3.one : M3 K) = ⟨1, 0, 0, 0, 1, 0, 0, 0, 1⟩ := by
  ext <;> msimp [one]

theorem skew_add : skew (u.add v) = (skew u).add (skew v) := by
  ext <;> msimp [skew, V3.add, add, zip] <;> ring
theorem skew_smul : skew (u.smul c) = M3.smul c (skew u) := by
  ext <;> msimp [skew, V3.smul, smul, map] <;> ring
theorem skew_neg : skew v.neg = (skew v).neg := by
  ext <;> msimp [skew, V3.neg, neg, map] <;> ring
theorem skew_neg_eq_transpose : skew v.neg = (skew v).transpose := by
  ext <;> msimp [skew, V3.neg, transpose] <;> ring
theorem skew_mulVec_anticomm : (skew u).mulVec v = ((skew v).mulVec u).neg := by
  ext <;> msimp [mulVec, skew, V3.neg] <;> ring
/-- `[u × v]× = [u]×[v]× − [v]×[u]×` -/
theorem skew_bracket : skew ((skew u).mulVec v) = ((skew u).mul (skew v)).sub ((skew v).mul (skew u)) := by
  ext <;> msimp [skew, mulVec, mul, sub, zip] <;> ring
/-- `[u]׳ = −|u|² [u]×` -/
theorem skew_cube :
    ((skew u).mul (skew u)).mul (skew u) = M3.smul (-(u.x * u.x + (u.y * u.y + u.z * u.z))) (skew u) := by
  ext <;> msimp [skew, mul, smul, map] <;> ring

/-- product of two affine maps of the plane, as the model's 3×3 matrices -/
theorem affine_mul (a b x c d y a' b' x' c' d' y' : K) :
    (⟨a, b, x, c, d, y, 0, 0, 1⟩ : M3 K).mul ⟨a', b', x', c', d', y', 0, 0, 1⟩ =
      ⟨a * a' + b * c', a * b' + b * d', a * x' + b * y' + x,
       c * a' + d * c', c * b' + d * d', c * x' + d * y' + y, 0, 0, 1⟩ := by
  ext <;> simp only [mul, sum3] <;> ring
end M3

omit [Field K] [LinearOrder K] [Transc K] in
theorem V3.toVec_injective : Function.Injective (V3.toVec (K := K)) := fun _ _ h =>
  V3.ext (congrFun h 0) (congrFun h 1) (congrFun h 2)

omit [Field K] [LinearOrder K] [Transc K] in
theorem M3.toMatrix_injective : Function.Injective (M3.toMatrix (K := K)) := fun _ _ h =>
  have e := fun i j => congrFun (congrFun h i) j
  M3.ext (e 0 0) (e 0 1) (e 0 2) (e 1 0) (e 1 1) (e 1 2) (e 2 0) (e 2 1) (e 2 2)

@[simp] theorem M3.toMatrix_mul (a b : M3 K) : (a.mul b).toMatrix = a.toMatrix * b.toMatrix := by
  simp only [M3.toMatrix, M3.mul, sum3, Matrix.mul_fin_three, add_assoc]

@[simp] theorem M3.toMatrix_one : (M3.one : M3 K).toMatrix = 1 := by
  simp only [M3.toMatrix, M3.one, Matrix.one_fin_three, scalar_nat, Nat.cast_one, Nat.cast_zero]

@[simp] theorem M3.toMatrix_zero : (M3.zero : M3 K).toMatrix = 0 := by
  ext i j
  fin_cases i <;> fin_cases j <;> exact Nat.cast_zero

@[simp] theorem M3.toMatrix_add (a b : M3 K) : (a.add b).toMatrix = a.toMatrix + b.toMatrix := by
  ext i j
  fin_cases i <;> fin_cases j <;> rfl

@[simp] theorem M3.toMatrix_sub (a b : M3 K) : (a.sub b).toMatrix = a.toMatrix - b.toMatrix := by
  ext i j
  fin_cases i <;> fin_cases j <;> rfl

@[simp] theorem M3.toMatrix_neg (a : M3 K) : a.neg.toMatrix = -a.toMatrix := by
  ext i j
  fin_cases i <;> fin_cases j <;> rfl

@[simp] theorem M3.toMatrix_smul (s : K) (a : M3 K) : (M3.smul s a).toMatrix = s • a.toMatrix := by
  ext i j
  fin_cases i <;> fin_cases j <;> rfl

-- `fin_cases <;> rfl`, which proves the neighbours, is slow to check here; `simp` is not
omit [Field K] [LinearOrder K] [Transc K] in
@[simp] theorem M3.toMatrix_transpose (a : M3 K) : a.transpose.toMatrix = a.toMatrixᵀ := by
  ext i j
  fin_cases i <;> fin_cases j <;> simp [M3.transpose, M3.toMatrix]

theorem M3.toMatrix_skew (v : V3 K) : (M3.skew v).toMatrix = !![0, -v.z, v.y; v.z, 0, -v.x; -v.y, v.x, 0] := by
  simp only [M3.skew, M3.toMatrix, scalar_nat, Nat.cast_zero]

@[simp] theorem M3.toVec_mulVec (a : M3 K) (v : V3 K) :
    (a.mulVec v).toVec = a.toMatrix.mulVec v.toVec := by
  ext i
  fin_cases i <;> simp only [M3.mulVec, M3.toMatrix, V3.toVec, sum3, Matrix.mulVec, dotProduct,
    Fin.sum_univ_three, add_assoc] <;> rfl

/-- a matrix identity read back on the structures -/
theorem M3.mulVec_cancel {A B : M3 K} (h : A.toMatrix * B.toMatrix = 1) (u : V3 K) :
    A.mulVec (B.mulVec u) = u :=
  V3.toVec_injective (by rw [M3.toVec_mulVec, M3.toVec_mulVec, Matrix.mulVec_mulVec, h, Matrix.one_mulVec])

@[simp] theorem V3.toVec_add (a b : V3 K) : (a.add b).toVec = a.toVec + b.toVec := by
  ext i; fin_cases i <;> rfl
@[simp] theorem V3.toVec_sub (a b : V3 K) : (a.sub b).toVec = a.toVec - b.toVec := by
  ext i; fin_cases i <;> rfl
@[simp] theorem V3.toVec_neg (a : V3 K) : a.neg.toVec = -a.toVec := by
  ext i; fin_cases i <;> rfl
@[simp] theorem V3.toVec_smul (c : K) (a : V3 K) : (a.smul c).toVec = c • a.toVec := by
  ext i; fin_cases i <;> rfl

omit [LinearOrder K] [Transc K] in
theorem V3.toVec_zero : (⟨0, 0, 0⟩ : V3 K).toVec = 0 := by
  ext i; fin_cases i <;> rfl

theorem M3.toMatrix_skew_linear (c : K) (u v : V3 K) :
    (M3.skew ((u.smul c).add v)).toMatrix = c • (M3.skew u).toMatrix + (M3.skew v).toMatrix := by
  rw [M3.skew_add, M3.skew_smul, M3.toMatrix_add, M3.toMatrix_smul]

theorem M3.toMatrix_quadratic (W : M3 K) (a b : K) :
    ((M3.one.add (M3.smul a W)).add (M3.smul b (W.mul W))).toMatrix =
      1 + a • W.toMatrix + b • W.toMatrix ^ 2 := by
  rw [M3.toMatrix_add, M3.toMatrix_add, M3.toMatrix_smul, M3.toMatrix_smul, M3.toMatrix_mul, M3.toMatrix_one, pow_two]

@[simp] theorem M2.toMatrix_mul (a b : M2 K) : (a.mul b).toMatrix = a.toMatrix * b.toMatrix := by
  simp only [M2.toMatrix, M2.mul, Matrix.mul_fin_two]

@[simp] theorem M2.toVec_mulVec (a : M2 K) (v : V2 K) :
    (a.mulVec v).toVec = a.toMatrix.mulVec v.toVec := by
  ext i
  fin_cases i <;>
    simp [M2.mulVec, M2.toMatrix, V2.toVec, Matrix.mulVec, dotProduct, Fin.sum_univ_two]

def M6.toMatrix (m : M6 K) : Matrix (Fin 3 ⊕ Fin 3) (Fin 3 ⊕ Fin 3) K :=
  Matrix.fromBlocks m.tl.toMatrix m.tr.toMatrix m.bl.toMatrix m.br.toMatrix

@[simp] theorem M6.toMatrix_mul (a b : M6 K) : (a.mul b).toMatrix = a.toMatrix * b.toMatrix := by
  simp [M6.mul, M6.toMatrix, Matrix.fromBlocks_multiply]

@[simp] theorem M6.toMatrix_one : (M6.one : M6 K).toMatrix = 1 := by
  simp [M6.one, M6.toMatrix]

@[simp] theorem M6.toMatrix_neg (a : M6 K) : a.neg.toMatrix = -a.toMatrix := by
  simp [M6.neg, M6.toMatrix, Matrix.fromBlocks_neg]

end Manif
