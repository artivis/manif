/-
  Lemmas/Quat.lean — unit-quaternion algebra behind SO3/SE3/SE_2(3)/SGal3: the product is
  associative with `q q̄ = q̄ q = |q|²`; Eigen's `toRotationMatrix` is multiplicative on unit
  quaternions, `conj` transposes it, it commutes with the cross product, `q` and `-q` give the same
  rotation.  Proofs about the groups use these facts and treat `q.toRot` as an opaque rotation.
-/
import ManifProofs.Lemmas.Mat

namespace Manif
open Matrix

variable {K : Type} [Field K] [LinearOrder K] [Transc K]

/-- squared norm, plain form -/
def Quat.sqn (q : Quat K) : K := q.x * q.x + q.y * q.y + q.z * q.z + q.w * q.w

namespace Quat

theorem sqNorm_eq (q : Quat K) : q.sqNorm = q.sqn := by
  simp only [sqNorm, sqn, sum4]; ring

theorem mul_assoc (p q r : Quat K) : (p.mul q).mul r = p.mul (q.mul r) := by
  ext <;> simp only [mul] <;> ring
theorem one_mul (q : Quat K) : (⟨0, 0, 0, 1⟩ : Quat K).mul q = q := by
  ext <;> simp only [mul] <;> ring
theorem mul_one (q : Quat K) : q.mul ⟨0, 0, 0, 1⟩ = q := by
  ext <;> simp only [mul] <;> ring
theorem mul_zero (p : Quat K) : p.mul ⟨0, 0, 0, 0⟩ = ⟨0, 0, 0, 0⟩ := by
  ext <;> simp only [mul] <;> ring
theorem mul_conj (q : Quat K) : q.mul q.conj = ⟨0, 0, 0, q.sqn⟩ := by
  ext <;> simp only [mul, conj, sqn] <;> ring
theorem conj_mul (q : Quat K) : q.conj.mul q = ⟨0, 0, 0, q.sqn⟩ := by
  ext <;> simp only [mul, conj, sqn] <;> ring
theorem conj_mul_rev (p q : Quat K) : (p.mul q).conj = q.conj.mul p.conj := by
  ext <;> simp only [mul, conj] <;> ring
theorem scale_one (q : Quat K) : q.scale 1 = q := by
  ext <;> simp only [scale, _root_.mul_one]

theorem sqn_mul (p q : Quat K) : (p.mul q).sqn = p.sqn * q.sqn := by
  simp only [mul, sqn]; ring

theorem sqn_scale (q : Quat K) (s : K) : (q.scale s).sqn = q.sqn * (s * s) := by
  simp only [scale, sqn]; ring

omit [LinearOrder K] [Transc K] in
theorem sqn_one : (⟨0, 0, 0, 1⟩ : Quat K).sqn = 1 := by
  simp only [sqn, MulZeroClass.mul_zero, _root_.mul_one, zero_add]

theorem sqn_conj (q : Quat K) : q.conj.sqn = q.sqn := by
  simp only [conj, sqn, neg_mul_neg]

theorem mul_conj_cancel_left (q y : Quat K) (hq : q.sqn = 1) : q.mul (q.conj.mul y) = y := by
  rw [← mul_assoc, mul_conj, hq, one_mul]
theorem conj_mul_cancel_left (q y : Quat K) (hq : q.sqn = 1) : q.conj.mul (q.mul y) = y := by
  rw [← mul_assoc, conj_mul, hq, one_mul]

/-- the homogeneous (degree-2) rotation matrix `v ↦ q v q̄`; multiplicative for *all* q. -/
def rotH (q : Quat K) : M3 K :=
  ⟨q.w*q.w + q.x*q.x - q.y*q.y - q.z*q.z, 2*(q.x*q.y - q.w*q.z), 2*(q.x*q.z + q.w*q.y),
   2*(q.x*q.y + q.w*q.z), q.w*q.w - q.x*q.x + q.y*q.y - q.z*q.z, 2*(q.y*q.z - q.w*q.x),
   2*(q.x*q.z - q.w*q.y), 2*(q.y*q.z + q.w*q.x), q.w*q.w - q.x*q.x - q.y*q.y + q.z*q.z⟩

theorem toRot_eq_rotH (q : Quat K) (h : q.sqn = 1) : q.toRot = q.rotH := by
  unfold sqn at h
  ext <;> msimp [toRot, rotH] <;> first | ring1 | linear_combination (-1 : K) * h

theorem toRot_one : (⟨0, 0, 0, 1⟩ : Quat K).toRot = M3.one := by
  ext <;> msimp [toRot, M3.one] <;> ring

/-- `q` and `-q` are the same rotation -/
theorem toRot_neg (q : Quat K) : (Quat.mk (-q.x) (-q.y) (-q.z) (-q.w)).toRot = q.toRot := by
  ext <;> simp only [toRot, mul_neg, neg_mul, neg_neg]

theorem rotH_mul (p q : Quat K) : (p.mul q).rotH = p.rotH.mul q.rotH := by
  ext <;> msimp [mul, rotH, M3.mul] <;> ring

theorem rotH_conj (q : Quat K) : q.conj.rotH = q.rotH.transpose := by
  ext <;> msimp [conj, rotH, M3.transpose] <;> ring

theorem rotH_neg (q : Quat K) : (Quat.mk (-q.x) (-q.y) (-q.z) (-q.w)).rotH = q.rotH := by
  ext <;> msimp [Quat.rotH] <;> ring

theorem rotH_real (w : K) : (⟨0, 0, 0, w⟩ : Quat K).rotH = M3.smul (w * w) M3.one := by
  ext <;> msimp [rotH, M3.smul, M3.map, M3.one] <;> ring

/-- `R Rᵀ = |q|⁴ I`: the rotation of `q q̄ = |q|²`. -/
theorem rotH_mul_transpose (q : Quat K) :
    q.rotH.mul q.rotH.transpose = M3.smul (q.sqn * q.sqn) M3.one := by
  rw [← rotH_conj, ← rotH_mul, mul_conj, rotH_real]

theorem rotH_transpose_mul (q : Quat K) :
    q.rotH.transpose.mul q.rotH = M3.smul (q.sqn * q.sqn) M3.one := by
  rw [← rotH_conj, ← rotH_mul, conj_mul, rotH_real]

omit [LinearOrder K] [Transc K] in
/-- `det R_H = |q|⁶`, for every quaternion -/
theorem det_rotH (q : Quat K) :
    let R := q.rotH
    R.a00 * (R.a11 * R.a22 - R.a12 * R.a21) - R.a01 * (R.a10 * R.a22 - R.a12 * R.a20)
      + R.a02 * (R.a10 * R.a21 - R.a11 * R.a20) = q.sqn ^ 3 := by
  simp only [rotH, sqn]
  ring

/-- `[R_H s]× R_H = |q|² R_H [s]×` -/
theorem skew_rotH (q : Quat K) (s : V3 K) :
    (M3.skew (q.rotH.mulVec s)).mul q.rotH = M3.smul q.sqn (q.rotH.mul (M3.skew s)) := by
  ext <;> msimp [rotH, M3.mul, M3.skew, M3.smul, M3.map, M3.mulVec, sqn] <;> ring

theorem conj_unit (q : Quat K) (hq : q.sqn = 1) : q.conj.sqn = 1 := by rw [sqn_conj, hq]

theorem mul_unit (p q : Quat K) (hp : p.sqn = 1) (hq : q.sqn = 1) : (p.mul q).sqn = 1 := by
  rw [sqn_mul, hp, hq, _root_.mul_one]

theorem toRot_mul (p q : Quat K) (hp : p.sqn = 1) (hq : q.sqn = 1) : (p.mul q).toRot = p.toRot.mul q.toRot := by
  rw [toRot_eq_rotH _ hp, toRot_eq_rotH _ hq, toRot_eq_rotH _ (mul_unit p q hp hq), rotH_mul]

theorem toRot_conj (q : Quat K) (hq : q.sqn = 1) : q.conj.toRot = q.toRot.transpose := by
  rw [toRot_eq_rotH _ hq, toRot_eq_rotH _ (conj_unit q hq), rotH_conj]

theorem toRot_mul_transpose (q : Quat K) (hq : q.sqn = 1) : q.toRot.mul q.toRot.transpose = M3.one := by
  rw [toRot_eq_rotH _ hq, rotH_mul_transpose, hq, _root_.mul_one, M3.one_smul]

theorem toRot_transpose_mul (q : Quat K) (hq : q.sqn = 1) : q.toRot.transpose.mul q.toRot = M3.one := by
  rw [toRot_eq_rotH _ hq, rotH_transpose_mul, hq, _root_.mul_one, M3.one_smul]

theorem toRot_mulVec_conj (q : Quat K) (hq : q.sqn = 1) (v : V3 K) :
    q.toRot.mulVec (q.conj.toRot.mulVec v) = v := by
  rw [toRot_conj q hq, ← M3.mul_mulVec, toRot_mul_transpose q hq, M3.one_mulVec]

theorem conj_toRot_mulVec (q : Quat K) (hq : q.sqn = 1) (v : V3 K) :
    q.conj.toRot.mulVec (q.toRot.mulVec v) = v := by
  rw [toRot_conj q hq, ← M3.mul_mulVec, toRot_transpose_mul q hq, M3.one_mulVec]

/-- a rotation commutes with the cross product: `[R v]× R = R [v]×` -/
theorem skew_toRot (q : Quat K) (hq : q.sqn = 1) (v : V3 K) :
    (M3.skew (q.toRot.mulVec v)).mul q.toRot = q.toRot.mul (M3.skew v) := by
  rw [toRot_eq_rotH q hq, skew_rotH, hq, M3.one_smul]

theorem toRot_cross (q : Quat K) (hq : q.sqn = 1) (u v : V3 K) :
    q.toRot.mulVec ((M3.skew u).mulVec v) = (M3.skew (q.toRot.mulVec u)).mulVec (q.toRot.mulVec v) := by
  rw [← M3.mul_mulVec, ← M3.mul_mulVec, skew_toRot q hq]

end Quat
end Manif
