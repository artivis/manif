/-
  Lemmas/Tree.lean — Eigen's unrolled halving reduction (`treeSum`) is the plain sum, in any
  field; consequences for the flat dot products / squared norms the driver computes.
-/
import ManifProofs.Inst.Field
import Mathlib.Algebra.BigOperators.Group.List.Basic
import Mathlib.Algebra.Order.BigOperators.Group.List
import Mathlib.Tactic.Ring
import Mathlib.Tactic.Linarith

namespace Manif
variable {K : Type} [Field K] [LinearOrder K] [Transc K]

theorem treeSum_eq_sum : ∀ (fuel : ℕ) (l : List K), l.length ≤ fuel → treeSum fuel l = l.sum
  | 0, l, h => by
    obtain rfl := List.eq_nil_of_length_eq_zero (Nat.le_zero.mp h)
    simp [treeSum]
  | fuel + 1, [], _ => by simp [treeSum]
  | fuel + 1, [a], _ => by simp [treeSum]
  | fuel + 1, a :: b :: rest, h => by
    -- both halves are shorter than the list, so the fuel left suffices for them
    have hlen : (a :: b :: rest).length = rest.length + 2 := rfl
    rw [treeSum, treeSum_eq_sum fuel _ (by rw [List.length_take]; omega),
      treeSum_eq_sum fuel _ (by rw [List.length_drop]; omega), List.sum_take_add_sum_drop]
    all_goals simp

theorem sqNormFlat_eq (a : List K) : sqNormFlat a = (a.map fun x => x * x).sum := by
  unfold sqNormFlat
  exact treeSum_eq_sum _ _ (by simp)

theorem sqNormFlat_eq_zero {l : List K} (h : ∀ x ∈ l, x = 0) : sqNormFlat l = 0 := by
  rw [sqNormFlat_eq]
  exact List.sum_eq_zero fun y hy => by
    obtain ⟨x, hx, rfl⟩ := List.mem_map.mp hy
    rw [h x hx, mul_zero]

theorem sqNormFlat_neg (l : List K) : sqNormFlat (l.map Neg.neg) = sqNormFlat l := by
  simp only [sqNormFlat_eq, List.map_map, Function.comp_def, neg_mul_neg]

theorem sqNormFlat_nonneg [IsStrictOrderedRing K] (a : List K) : 0 ≤ sqNormFlat a := by
  rw [sqNormFlat_eq]
  exact List.sum_nonneg fun x hx => by
    obtain ⟨y, _, rfl⟩ := List.mem_map.mp hx
    exact mul_self_nonneg y

theorem dotTree_eq (a b : List K) : dotTree a b = (List.zipWith (· * ·) a b).sum := by
  unfold dotTree
  exact treeSum_eq_sum _ _ (by simp)

end Manif
