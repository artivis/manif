/-
  Lemmas/Except.lean — computations in `Except`.
  "Succeeds with a result satisfying `P`" (`∃ a, r = .ok a ∧ P a`) is closed under bind, so an invariant of every
  step of a machine is an invariant of every run; together with the few equations about `map` and `bind` that
  let proofs about the derived group operations avoid unfolding the monad.  (Also the one fact about
  `List.lookup` that the table-driven definitions need.)
-/
namespace Manif

@[simp] theorem except_ok_bind {ε α β : Type} (a : α) (f : α → Except ε β) :
    (Except.ok a >>= f) = f a := rfl

@[simp] theorem except_error_bind {ε α β : Type} (e : ε) (f : α → Except ε β) :
    (Except.error e >>= f) = .error e := rfl

@[simp] theorem except_throw {ε α : Type} (e : ε) : (throw e : Except ε α) = .error e := rfl

theorem Except.map_map {ε α β γ : Type} (r : Except ε α) (f : α → β) (g : β → γ) :
    (r.map f).map g = r.map fun a => g (f a) := by
  cases r <;> rfl

theorem Except.bind_eq_ok {ε α β : Type} {x : Except ε α} {f : α → Except ε β} {b : β} :
    x >>= f = .ok b ↔ ∃ a, x = .ok a ∧ f a = .ok b := by
  cases x with
  | error e => exact ⟨nofun, nofun⟩
  | ok a => exact ⟨fun h => ⟨a, rfl, h⟩, fun ⟨_, e, h⟩ => Except.ok.inj e ▸ h⟩

theorem Except.bind_ok_of {ε α β : Type} {r : Except ε α} {f : α → Except ε β} {P : α → Prop}
    {Q : β → Prop} (hr : ∃ a, r = .ok a ∧ P a) (hf : ∀ a, P a → ∃ b, f a = .ok b ∧ Q b) :
    ∃ b, r >>= f = .ok b ∧ Q b := by
  obtain ⟨a, rfl, ha⟩ := hr
  exact hf a ha

/-- `run` is any function obeying the two equations of a left fold of `step` in `Except`. -/
theorem Except.run_ok_of {σ ο ε : Type} {step : σ → ο → Except ε σ} {run : List ο → σ → Except ε σ}
    (hnil : ∀ s, run [] s = .ok s) (hcons : ∀ o os s, run (o :: os) s = step s o >>= run os)
    {P : σ → Prop} (hstep : ∀ s o, P s → ∃ s', step s o = .ok s' ∧ P s') (ops : List ο) :
    ∀ s, P s → ∃ s', run ops s = .ok s' ∧ P s' := by
  induction ops with
  | nil => exact fun s h => ⟨s, hnil s, h⟩
  | cons o os ih => exact fun s h => hcons o os s ▸ Except.bind_ok_of (hstep s o h) ih

theorem Pool.store_ok_of {ε G : Type} {P : G → Prop} {pool : List G} (h : ∀ X ∈ pool, P X) {r : Except ε G}
    (hr : ∃ Z, r = .ok Z ∧ P Z) (dst : Nat) :
    ∃ pool', (r.map fun Z => pool.set dst Z) = .ok pool' ∧ ∀ X ∈ pool', P X := by
  obtain ⟨Z, rfl, hZ⟩ := hr
  refine ⟨_, rfl, fun W hW => ?_⟩
  rcases List.mem_or_eq_of_mem_set hW with hW | rfl
  · exact h W hW
  · exact hZ

theorem lookup_mem {α β : Type} [BEq α] [LawfulBEq α] {l : List (α × β)} {a : α} {b : β}
    (h : l.lookup a = some b) : (a, b) ∈ l := by
  obtain ⟨l₁, l₂, rfl, _⟩ := List.lookup_eq_some_iff.mp h
  exact List.mem_append_right _ List.mem_cons_self

end Manif
