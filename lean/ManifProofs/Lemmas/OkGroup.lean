/-
  Lemmas/OkGroup.lean — the members `LieGroupBase` derives from the primitives (`rplus`, `rminus`, `lplus`, `lminus`,
  `between`, SLERP), evaluated once for every record of primitives whose `compose` and `inverse` succeed on a set
  `Valid` with values `mul`, `inv` obeying the cancellation laws there.  As whole calls, no exception raised:
  `X⁻¹·X = I = X·X⁻¹`, `X·between(X,Y) = Y`, `X ⊕ (Y ⊖ X) = X·exp(log(X⁻¹·Y))`, `(X ⊕ t) ⊖ X = log(exp t)`,
  `(t ⊕ X) ⊖ₗ X = log((exp t·X)·X⁻¹)`, `interpolate(A,B,0) = A`.  A group instantiates the bundle with its coordinates
  and finishes with what it knows of `exp ∘ log` and `log ∘ exp`.
-/
import ManifModel.Algorithms.Interp
import ManifProofs.Inst.Field
import ManifProofs.Lemmas.GroupOps
namespace Manif

section interp
variable {K G T J : Type} [Scalar K] (o : GroupOps K G T J)

/-- SLERP is, by definition, `ma.rplus(mb.rminus(ma) * t)` on `[0,1]`. -/
theorem interpSlerp_def (dbg : Bool) (A B : G) (t : K) (h : inUnit t = true) :
    o.interpSlerp dbg A B t = (do let d ← o.rminusV dbg B A; o.rplusV dbg A (o.tscale d t)) := by
  simp [GroupOps.interpSlerp, h, bind, Except.bind]

/-- `interpolate(A, B, s)` is `A ⊕ (B ⊖ A)` whenever scaling a tangent by `s` leaves it unchanged (`s = 1`) -/
theorem interpSlerp_one_eq (dbg : Bool) (A B : G) (s : K) (h1 : ∀ d : T, o.tscale d s = d) (hu : inUnit s = true) :
    o.interpSlerp dbg A B s =
      (do let d ← o.rminus dbg B A false false
          let r ← o.rplus dbg A d.val false false
          pure r.val) := by
  rw [interpSlerp_def o dbg A B s hu, GroupOps.rminusV]
  cases o.rminus dbg B A false false with
  | error e => rfl
  | ok d => simp only [GroupOps.rplusV, bind, Except.bind, Except.map, h1, pure, Except.pure]

/-- `interpolate(A, B, s) = A` whenever `exp` of a tangent scaled by `s` is an `I` with `A · I = A` (`s = 0`) -/
theorem interpSlerp_zero_of (dbg : Bool) (A B I : G) (s : K) (d : T) (hu : inUnit s = true)
    (hd : o.rminusV dbg B A = .ok d) (he : o.exp dbg (o.tscale d s) = .ok I) (hc : o.compose dbg A I = .ok A) :
    o.interpSlerp dbg A B s = .ok A := by
  rw [interpSlerp_def o dbg A B s hu, hd, except_ok_bind, GroupOps.rplusV, o.rplus_plain, he, except_ok_bind, hc]
  rfl
end interp

section
variable {K : Type} [Field K] [LinearOrder K] [IsStrictOrderedRing K] [Transc K]
theorem inUnit_one : inUnit (1 : K) = true := by simp [inUnit]
theorem inUnit_zero : inUnit (0 : K) = true := by simp [inUnit]
end

namespace GroupOps
variable {K G T J : Type} (o : GroupOps K G T J)

/-- On `Valid` operands the primitives `compose`, `inverse` of `o` raise nothing and return `mul`, `inv`; `Valid` is
    closed under them and contains `one`.  Of the group laws only what the derived members use is asked for: the two
    left cancellations and `mul_one` (no associativity, no `one_mul`). -/
structure OkGroup (Valid : G → Prop) (mul : G → G → G) (inv : G → G) (one : G) : Prop where
  compose_ok : ∀ (dbg : Bool) {X Y : G}, Valid X → Valid Y → o.compose dbg X Y = .ok (mul X Y)
  inverse_ok : ∀ (dbg : Bool) {X : G}, Valid X → o.inverse dbg X = .ok (inv X)
  valid_mul : ∀ {X Y : G}, Valid X → Valid Y → Valid (mul X Y)
  valid_inv : ∀ {X : G}, Valid X → Valid (inv X)
  valid_one : Valid one
  mul_inv_cancel_left : ∀ {X : G}, Valid X → ∀ Y, mul X (mul (inv X) Y) = Y
  inv_mul_cancel_left : ∀ {X : G}, Valid X → ∀ Y, mul (inv X) (mul X Y) = Y
  mul_one : ∀ X : G, mul X one = X

namespace OkGroup
variable {o} {Valid : G → Prop} {mul : G → G → G} {inv : G → G} {one : G} (h : o.OkGroup Valid mul inv one)
include h

theorem inv_mul_self {X : G} (hX : Valid X) : mul (inv X) X = one := by
  have e := h.inv_mul_cancel_left hX one
  rwa [h.mul_one] at e

theorem mul_inv_self {X : G} (hX : Valid X) : mul X (inv X) = one := by
  have e := h.mul_inv_cancel_left hX one
  rwa [h.mul_one] at e

theorem rminus_ok (dbg : Bool) {X Y : G} (hX : Valid X) (hY : Valid Y) :
    o.rminus dbg X Y false false = .ok ⟨o.log (mul (inv Y) X), none, none⟩ := by
  rw [o.rminus_mask, h.inverse_ok dbg hY, except_ok_bind, h.compose_ok dbg (h.valid_inv hY) hX]
  rfl

theorem lminus_ok (dbg : Bool) {X Y : G} (hX : Valid X) (hY : Valid Y) :
    o.lminus dbg X Y false false = .ok ⟨o.log (mul X (inv Y)), none, none⟩ := by
  rw [o.lminus_mask, h.inverse_ok dbg hY, except_ok_bind, h.compose_ok dbg hX (h.valid_inv hY)]
  rfl

theorem between_ok (dbg : Bool) {X Y : G} (hX : Valid X) (hY : Valid Y) :
    o.between dbg X Y false false = .ok ⟨mul (inv X) Y, none, none⟩ := by
  rw [o.between_plain, h.inverse_ok dbg hX, except_ok_bind, h.compose_ok dbg (h.valid_inv hX) hY]
  rfl

theorem rplus_ok (dbg : Bool) {X E : G} {t : T} (hX : Valid X) (he : o.exp dbg t = .ok E) (hE : Valid E) :
    o.rplus dbg X t false false = .ok ⟨mul X E, none, none⟩ := by
  rw [o.rplus_plain, he, except_ok_bind, h.compose_ok dbg hX hE]
  rfl

theorem lplus_ok (dbg : Bool) {X E : G} {t : T} (hX : Valid X) (he : o.exp dbg t = .ok E) (hE : Valid E) :
    o.lplus dbg X t false false = .ok ⟨mul E X, none, none⟩ := by
  rw [o.lplus_plain, he, except_ok_bind, h.compose_ok dbg hE hX]
  rfl

theorem rminusV_ok (dbg : Bool) {X Y : G} (hX : Valid X) (hY : Valid Y) :
    o.rminusV dbg X Y = .ok (o.log (mul (inv Y) X)) := by
  rw [GroupOps.rminusV, h.rminus_ok dbg hX hY]
  rfl

theorem inverse_compose (dbg : Bool) {X : G} (hX : Valid X) :
    (do let i ← o.inverse dbg X; o.compose dbg i X) = .ok one := by
  rw [h.inverse_ok dbg hX]
  exact (h.compose_ok dbg (h.valid_inv hX) hX).trans (congrArg _ (h.inv_mul_self hX))

theorem compose_inverse (dbg : Bool) {X : G} (hX : Valid X) :
    (do let i ← o.inverse dbg X; o.compose dbg X i) = .ok one := by
  rw [h.inverse_ok dbg hX]
  exact (h.compose_ok dbg hX (h.valid_inv hX)).trans (congrArg _ (h.mul_inv_self hX))

theorem compose_between (dbg : Bool) {X Y : G} (hX : Valid X) (hY : Valid Y) :
    (do let b ← o.between dbg X Y false false
        o.compose dbg X b.val) = .ok Y := by
  rw [h.between_ok dbg hX hY]
  exact (h.compose_ok dbg hX (h.valid_mul (h.valid_inv hX) hY)).trans (congrArg _ (h.mul_inv_cancel_left hX Y))

/-- `X ⊕ (Y ⊖ X)` is `X · C` when `exp (log (X⁻¹ · Y))` returns `C` (which is `X⁻¹ · Y` itself, or an equivalent
    representative of it: `exp ∘ log` may change the sign of a quaternion). -/
theorem rplus_rminus (dbg : Bool) {X Y C : G} (hX : Valid X) (hY : Valid Y)
    (he : o.exp dbg (o.log (mul (inv X) Y)) = .ok C) (hC : Valid C) :
    (do let d ← o.rminus dbg Y X false false
        let r ← o.rplus dbg X d.val false false
        pure r.val) = .ok (mul X C) := by
  rw [h.rminus_ok dbg hY hX]
  show (do let r ← o.rplus dbg X (o.log (mul (inv X) Y)) false false; pure r.val) = _
  rw [h.rplus_ok dbg hX he hC]
  rfl

/-- `(X ⊕ t) ⊖ X` is `log (exp t)` -/
theorem rminus_rplus (dbg : Bool) {X E : G} {t : T} (hX : Valid X) (he : o.exp dbg t = .ok E) (hE : Valid E) :
    (do let r ← o.rplus dbg X t false false
        let d ← o.rminus dbg r.val X false false
        pure d.val) = .ok (o.log E) := by
  rw [h.rplus_ok dbg hX he hE]
  show (do let d ← o.rminus dbg (mul X E) X false false; pure d.val) = _
  rw [h.rminus_ok dbg (h.valid_mul hX hE) hX, h.inv_mul_cancel_left hX]
  rfl

/-- `(t ⊕ X) ⊖ₗ X` is `log ((exp t · X) · X⁻¹)` -/
theorem lminus_lplus (dbg : Bool) {X E : G} {t : T} (hX : Valid X) (he : o.exp dbg t = .ok E) (hE : Valid E) :
    (do let r ← o.lplus dbg X t false false
        let d ← o.lminus dbg r.val X false false
        pure d.val) = .ok (o.log (mul (mul E X) (inv X))) := by
  rw [h.lplus_ok dbg hX he hE]
  show (do let d ← o.lminus dbg (mul E X) X false false; pure d.val) = _
  rw [h.lminus_ok dbg (h.valid_mul hE hX) hX]
  rfl

/- Whatever `φ` turns `mul` into the product of a monoid (the homogeneous matrix, for every group) turns `compose` into
   that product and `inverse` into a two-sided inverse there: no inverse has to be computed in the monoid. -/
section map
variable {M : Type*} [Monoid M] (φ : G → M)
  (hmul : ∀ {X Y : G}, Valid X → Valid Y → φ (mul X Y) = φ X * φ Y) (hone : φ one = 1)
include hmul

theorem map_compose (dbg : Bool) {X Y : G} (hX : Valid X) (hY : Valid Y) :
    ∃ Z, o.compose dbg X Y = .ok Z ∧ Valid Z ∧ φ Z = φ X * φ Y :=
  ⟨mul X Y, h.compose_ok dbg hX hY, h.valid_mul hX hY, hmul hX hY⟩

include hone

theorem map_inverse (dbg : Bool) {X : G} (hX : Valid X) :
    ∃ Z, o.inverse dbg X = .ok Z ∧ Valid Z ∧ φ Z * φ X = 1 ∧ φ X * φ Z = 1 :=
  ⟨inv X, h.inverse_ok dbg hX, h.valid_inv hX,
    by rw [← hmul (h.valid_inv hX) hX, h.inv_mul_self hX, hone],
    by rw [← hmul hX (h.valid_inv hX), h.mul_inv_self hX, hone]⟩

omit hmul in
/-- the identity of the API is `exp 0`, a different call per group: `he` is that call evaluated -/
theorem map_one {e : Except Err G} (he : e = .ok one) : ∃ Z, e = .ok Z ∧ Valid Z ∧ φ Z = 1 :=
  ⟨one, he, h.valid_one, hone⟩
end map

section slerp
variable [Scalar K]

/-- `interpolate(A, B, 0) = A` when `exp` of a tangent scaled by `0` is the identity -/
theorem slerp_zero (dbg : Bool) {A B : G} {z : K} (hu : inUnit z = true) (hA : Valid A) (hB : Valid B)
    (he : ∀ d : T, o.exp dbg (o.tscale d z) = .ok one) :
    o.interpSlerp dbg A B z = .ok A :=
  interpSlerp_zero_of o dbg A B one z _ hu (h.rminusV_ok dbg hB hA) (he _)
    ((h.compose_ok dbg hA h.valid_one).trans (congrArg _ (h.mul_one A)))
end slerp

end OkGroup
end GroupOps
end Manif
